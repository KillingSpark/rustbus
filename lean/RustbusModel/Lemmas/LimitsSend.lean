import RustbusModel.Model.Limits
import RustbusModel.Lemmas.Header
import RustbusModel.Lemmas.Marshal
/-!
C18, send side: the length-level models equal the byte-level ones, refusal is exactly the two limits, a refused
component refuses the whole value, and whatever is emitted is accepted by the receive side's frame-size
computation, which is the function `announce` of the two length words (`bytesNeeded_eq_announce`,
`send_within_recv`). The byte level of the header is that of `Lemmas/HeaderMarshal`: `rawList` (what the field writers
append for a list of entries), `msgEntries_eq` (a message's entries, one optional entry `optU32` … `optFds` per field).
-/
namespace Rustbus.Limits
open Rustbus.Bytes Rustbus.Wire Rustbus.Header Rustbus.Spec.Header

/-- the offset at which the entries `es`, written from offset `n` on, end. Each optional entry of `msgEntries_eq` moves
    it as the matching `step*` of the length-level model does (`rawEnd_opt*`), which gives `fieldsEnd_eq` -/
def rawEnd (bo : ByteOrder) (n : Nat) (es : List Entry) : Nat := n + (rawList bo n es).length

theorem rawEnd_append (bo : ByteOrder) (n : Nat) (a b : List Entry) :
    rawEnd bo n (a ++ b) = rawEnd bo (rawEnd bo n a) b := by
  simp only [rawEnd, rawList_append, List.length_append]; omega

theorem rawEnd_optU32 (bo : ByteOrder) (n c : Nat) (x : Option Nat) :
    rawEnd bo n (optU32 c x) = stepU32 x.isSome n := by
  cases x <;> simp [rawEnd, optU32, rawList, rawEntry, stepU32, fieldHead_length, bytesOf_length]; omega

theorem rawEnd_optStr (bo : ByteOrder) (n c : Nat) (s : Option (List UInt8)) :
    rawEnd bo n (optStr c s) = stepStr (s.map List.length) n := by
  cases s <;> simp [rawEnd, optStr, rawList, rawEntry, stepStr, fieldHead_length, bytesOf_length]; omega

theorem rawEnd_optPath (bo : ByteOrder) (n : Nat) (s : Option (List UInt8)) :
    rawEnd bo n (optPath s) = stepStr (s.map List.length) n := by
  cases s <;> simp [rawEnd, optPath, rawList, rawEntry, stepStr, fieldHead_length, bytesOf_length]; omega

theorem rawEnd_optSig (m : Msg) (n : Nat) :
    rawEnd m.bo n (optSig m) = stepSig (if m.body.isEmpty then none else some m.bodySig.length) n := by
  unfold optSig
  by_cases h : m.body.isEmpty = true
  · simp [h, rawEnd, rawList, stepSig]
  · simp [h, rawEnd, rawList, rawEntry, stepSig, fieldHead_length]; omega

theorem rawEnd_optFds (m : Msg) (n : Nat) :
    rawEnd m.bo n (optFds m) = stepU32 (m.nfds != 0) n := by
  unfold optFds
  by_cases h : m.nfds = 0
  · simp [h, rawEnd, rawList, stepU32]
  · simp [h, rawEnd, rawList, rawEntry, stepU32, fieldHead_length, bytesOf_length]; omega

theorem fieldsEnd_eq (m : Msg) :
    16 + (rawList m.bo 16 (msgEntries m)).length = fieldsEnd (lensOf m) := by
  show rawEnd m.bo 16 (msgEntries m) = _
  rw [msgEntries_eq]
  simp only [rawEnd_append, rawEnd_optU32, rawEnd_optStr, rawEnd_optPath, rawEnd_optSig, rawEnd_optFds]
  rfl

/-- `marshal::marshal` accepts/refuses, and sizes the header, as the length-level model says -/
theorem marshalLen_eq (m : Msg) (serial : Nat) (h1 : 1 ≤ m.typ) (h4 : m.typ ≤ 4) (hn : NamesOk m) :
    (marshalHeader m serial).map List.length = marshalLen (lensOf m) := by
  rw [marshalHeader_of_inputOk m serial h1 h4 hn]
  unfold marshalLen
  dsimp only
  rw [← fieldsEnd_eq, Nat.add_sub_cancel_left, ← marshalOut_length m serial,
    show (lensOf m).bodyLen = m.body.length from rfl]
  split
  · rfl
  · split <;> rfl

theorem marshalLen_none_iff (l : MsgLens) :
    marshalLen l = none ↔
      (fieldsEnd l - 16 > maxArrayLen ∨ fieldsEnd l + padLen 8 (fieldsEnd l) + l.bodyLen > maxMessageLen) := by
  unfold marshalLen
  dsimp only
  split
  · simp [*]
  · split <;> simp [*]

theorem bytesNeeded_eq_announce (buf : List UInt8) (h16 : 16 ≤ buf.length) (fx : Fixed)
    (hfx : decodeFixed buf = some fx) :
    bytesNeeded buf = announce (valOf fx.bo (slice buf 12 4)) fx.bodyLen :=
  bytesNeeded_eq h16 hfx

theorem bytesNeeded_fixedBytes (fx : Fixed) (hok : fixedOk fx) (F : Nat) (hF : F < 256 ^ 4) (rest : List UInt8) :
    bytesNeeded (fixedBytes fx ++ (bytesOf fx.bo 4 F ++ rest)) = announce F fx.bodyLen := by
  rw [bytesNeeded_eq_announce _ (by simp only [List.length_append, fixedBytes_length, bytesOf_length]; omega) fx
      (decodeFixed_fixedBytes fx _ hok),
    slice_mid _ _ _ 12 4 (fixedBytes_length _).symm (bytesOf_length ..).symm, valOf_bytesOf _ _ _ hF]

theorem announce_tooLong_iff (F B : Nat) :
    announce F B = .tooLong ↔ (F > maxArrayLen ∨ 16 + F + padLen 8 (16 + F) + B > maxMessageLen) := by
  unfold announce
  dsimp only
  split <;> simp [*]

theorem announce_bytes {F B n : Nat} (h : announce F B = .bytes n) :
    n = 16 + F + padLen 8 (16 + F) + B ∧ F ≤ maxArrayLen ∧ n ≤ maxMessageLen := by
  unfold announce at h
  dsimp only at h
  split at h
  · cases h
  · cases h; omega

theorem send_within_recv (m : Msg) (serial : Nat) (hr : msgInRange m serial) (hs : 0 < serial)
    (hdr : List UInt8) (h : marshalHeader m serial = some hdr) :
    bytesNeeded (hdr ++ m.body) = .bytes (hdr.length + m.body.length) := by
  obtain ⟨h1, h4, _, harr, hsz, rfl⟩ := marshalHeader_eq_some.1 h
  obtain ⟨hfl, hser, hbl, _, _⟩ := hr
  have hlen := marshalOut_length m serial
  obtain ⟨rest, hshape⟩ : ∃ rest, marshalOut m serial ++ m.body =
      fixedBytes ⟨m.bo, m.typ, m.flags, m.body.length, serial⟩ ++
        (bytesOf m.bo 4 (rawList m.bo 16 (msgEntries m)).length ++ rest) := by
    simp only [marshalOut, Header.padTo, List.append_assoc]; exact ⟨_, rfl⟩
  rw [hshape, bytesNeeded_fixedBytes _ ⟨h1, h4, hfl, hbl, hs, hser⟩ _ (by have := maxArrayLen_lt; omega)]
  unfold announce
  dsimp only
  rw [if_neg (by omega), hlen]

theorem enc_array_isSome (bo : ByteOrder) (off : Nat) (e : Ty) (vs : List Val) :
    (enc bo off (.array e) (.arr vs)).isSome = true ↔
      ∃ body, encList bo (off + padLen 4 off + 4 + padLen e.align (off + padLen 4 off + 4)) e vs = some body ∧
        body.length ≤ maxArrayLen := by
  constructor
  · intro h
    obtain ⟨bs, he⟩ := Option.isSome_iff_exists.1 h
    obtain ⟨body, hb, hl, _⟩ := enc_array_some he
    exact ⟨body, hb, hl⟩
  · rintro ⟨body, hb, hl⟩
    simp only [enc, hb, if_pos hl, Option.isSome_some]

theorem enc_dict_isSome (bo : ByteOrder) (off : Nat) (k : Base) (vt : Ty) (es : List Val) :
    (enc bo off (.dict k vt) (.arr es)).isSome = true ↔
      ∃ body, encEntries bo (off + padLen 4 off + 4 + padLen 8 (off + padLen 4 off + 4)) k vt es = some body ∧
        body.length ≤ maxArrayLen := by
  rw [enc_dict_eq_array, enc_array_isSome]
  simp only [encEntries_eq_encList, Ty.align]

theorem fastM_isSome (bo : ByteOrder) (b : Base) (k : Nat) (ns : List Nat) (buf : List UInt8) :
    (Marshal.marshalSliceFastM bo b k ns buf).isSome = arrOk k ns.length := by
  unfold Marshal.marshalSliceFastM arrOk
  dsimp only
  split <;> simp [*]

/-- arrays of fixed-size elements: the `&[u8]`, `Vec<u64>` … fast path and the element-wise path alike -/
theorem fixed_array_isSome (bo : ByteOrder) (off : Nat) (b : Base) (k : Nat) (ns : List Nat)
    (hb : Marshal.fastElem b = true) (hk : b.fixedSize = some k) (hn : ∀ n ∈ ns, n < 256 ^ k) :
    (enc bo off (.array (.base b)) (.arr (ns.map Val.num))).isSome = arrOk k ns.length := by
  rw [← fastM_isSome bo b k ns (zeros off), Marshal.marshalSliceFastM_eq_enc bo b k ns _ hb hk hn,
    Option.isSome_map, zeros_length]

theorem encList_none_of_elem (bo : ByteOrder) (e : Ty) (pre : List Val) (v : Val) (post : List Val)
    (off : Nat) (b1 : List UInt8) (hpre : encList bo off e pre = some b1)
    (h : enc bo (off + b1.length) e v = none) : encList bo off e (pre ++ v :: post) = none := by
  induction pre generalizing off b1 with
  | nil =>
    simp only [encList, Option.some.injEq] at hpre
    subst hpre
    simp only [List.length_nil, Nat.add_zero] at h
    simp only [List.nil_append, encList, h]
  | cons p ps ih =>
    obtain ⟨b, r, h1, h2, rfl⟩ := encList_cons_some hpre
    simp only [List.cons_append, encList, h1]
    rw [ih (off + b.length) r h2 (by rw [List.length_append] at h; rw [Nat.add_assoc]; exact h)]

theorem encFields_none_of_field (bo : ByteOrder) (pre : List Ty) (t : Ty) (post : List Ty)
    (vpre : List Val) (v : Val) (vpost : List Val)
    (off : Nat) (b1 : List UInt8) (hpre : encFields bo off pre vpre = some b1)
    (h : enc bo (off + b1.length) t v = none) :
    encFields bo off (pre ++ t :: post) (vpre ++ v :: vpost) = none := by
  induction pre generalizing off b1 vpre with
  | nil =>
    cases vpre with
    | nil =>
      simp only [encFields, Option.some.injEq] at hpre
      subst hpre
      simp only [List.length_nil, Nat.add_zero] at h
      simp only [List.nil_append, encFields, h]
    | cons x xs => simp [encFields] at hpre
  | cons p ps ih =>
    cases vpre with
    | nil => simp [encFields] at hpre
    | cons x xs =>
      obtain ⟨b, r, h1, h2, rfl⟩ := encFields_cons_some hpre
      simp only [List.cons_append, encFields, h1]
      rw [ih xs (off + b.length) r h2 (by rw [List.length_append] at h; rw [Nat.add_assoc]; exact h)]

/- The three contexts of C18 `send_contexts`, in which the correspondence run wraps a byte array: second field of a
   struct, payload of a variant, value of the only entry of a dict (for which `enc_bytes_length`). -/

theorem enc_bytes_length (bo : ByteOrder) (off : Nat) (ns : List Nat) (hn : ∀ n ∈ ns, n < 256) (bs : List UInt8)
    (h : enc bo off (.array (.base .byte)) (.arr (ns.map Val.num)) = some bs) :
    bs.length = padLen 4 off + 4 + ns.length := by
  obtain ⟨body, hb, _, rfl⟩ := enc_array_some h
  rw [Marshal.encList_fast bo .byte 1 rfl rfl ns _ (Nat.mod_one _) hn] at hb
  cases hb
  simp only [List.length_append, zeros_length, bytesOf_length, Marshal.flatten_bytesOf_length, Ty.align,
    Base.align, padLen_one]
  omega

theorem enc_struct_byte_isSome (bo : ByteOrder) (off x : Nat) (hx : x < 256) (t : Ty) (v : Val) :
    (enc bo off (.struct [.base .byte, t]) (.struct [.num x, v])).isSome =
      (enc bo (off + padLen 8 off + 1) t v).isSome := by
  have hk : encBase bo (off + padLen 8 off) .byte (.num x) = some (bytesOf bo 1 x) :=
    (encBase_fixed (k := 1) rfl).2 ⟨x, rfl, hx, by rw [show Base.byte.align = 1 from rfl, padLen_one]; rfl⟩
  rw [Wire.enc_entry, hk]
  dsimp only
  rw [bytesOf_length]
  cases enc bo (off + padLen 8 off + 1) t v <;> rfl

theorem enc_variant_isSome (bo : ByteOrder) (off : Nat) (t : Ty) (v : Val) (ht : variantTypeOk t = true) :
    (enc bo off .variant (.variant t v)).isSome = (enc bo (off + (sigBytes t).length + 2) t v).isSome := by
  rw [enc]
  simp only [ht, if_true]
  cases enc bo (off + (sigBytes t).length + 2) t v <;> rfl

/-- a byte array as the value of the only entry `"k"` of a dict `a{say}`: the dict's own element region is
    `12 + n` bytes (key 6, padding 2, length word 4, the bytes), and that is what decides -/
theorem enc_dict_one_bytes_isSome (bo : ByteOrder) (off : Nat) (ns : List Nat) (hn : ∀ n ∈ ns, n < 256) :
    (enc bo off (.dict .string (.array (.base .byte)))
      (.arr [.struct [.str [107], .arr (ns.map Val.num)]])).isSome =
      decide (12 + ns.length ≤ maxArrayLen) := by
  obtain ⟨S, hS⟩ : ∃ S, off + padLen 4 off + 4 + padLen 8 (off + padLen 4 off + 4) = S := ⟨_, rfl⟩
  have h8 : S % 8 = 0 := hS ▸ padLen_add_mod (by decide) _
  have hS8 : padLen 8 S = 0 := padLen_zero_of_mod h8
  have hS4 : padLen 4 S = 0 := padLen_congr (off' := 0) ⟨2, rfl⟩ h8
  have hS6 : padLen 4 (S + 6) = 2 := padLen_congr (off' := 6) ⟨2, rfl⟩ (mod8_add (b := 0) h8 6)
  have hk (o : Nat) : encBase bo o .string (.str [107]) = some (zeros (padLen 4 o) ++ (bytesOf bo 4 1 ++ [107, 0])) :=
    (encBase_str (.inl rfl)).2 ⟨_, rfl, by decide, by decide, rfl⟩
  have hin := fixed_array_isSome bo (S + 6) .byte 1 ns rfl rfl hn
  have hlen := enc_bytes_length bo (S + 6) ns hn
  -- of the byte array only `hin` and `hlen` are used: as variables `t`, `v` the unfolding of the dict cannot enter it
  generalize Val.arr (ns.map Val.num) = v at hin hlen ⊢
  generalize Ty.array (.base .byte) = t at hin hlen ⊢
  rw [enc]
  simp only [hS, encEntries, hS8, Nat.add_zero, hk, hS4, zeros, List.replicate_zero, List.nil_append,
    List.length_append, bytesOf_length, List.length_cons, List.length_nil]
  cases he : enc bo (S + 6) t v with
  | none =>
    rw [he] at hin
    have : maxArrayLen < ns.length := by simpa [arrOk] using hin.symm
    exact (decide_eq_false (by omega)).symm
  | some vb =>
    have hb : (bytesOf bo 4 1 ++ [107, 0] ++ (vb ++ [])).length = 12 + ns.length := by
      simp only [List.length_append, List.length_nil, List.length_cons, bytesOf_length, hlen vb he, hS6]
      omega
    dsimp only
    rw [hb]
    by_cases hc : 12 + ns.length ≤ maxArrayLen <;> simp [hc]

end Rustbus.Limits
