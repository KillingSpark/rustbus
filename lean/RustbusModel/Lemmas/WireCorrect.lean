import RustbusModel.Lemmas.WireShape
import RustbusModel.Lemmas.WireDec
/-!
The decoder accepts exactly the encodings: `dec … = some (v, o')` iff `EncodedAt` (`dec_iff`). By strong induction
on the nesting budget, one lemma per type constructor, both directions at once; the basic types first
(`decBase_iff`), a dict through the array of its entry structs.
-/
namespace Rustbus.Wire
open Rustbus.Bytes Rustbus.Spec.Wire

structure Encodes (bo : ByteOrder) (buf : List UInt8) (nfds : Option Nat) (d : Nat) (t : Ty) (off lim : Nat) (v : Val)
    (o' : Nat) (bs : List UInt8) : Prop where
  encoded : enc bo off t v = some bs
  window : HasAt buf off bs
  stop : o' = off + bs.length
  inLim : o' ≤ lim
  inBuf : lim ≤ buf.length
  depth : depthOf t v ≤ d
  /-- `fdsOk nfds t v` spelt out (`fdsOk_iff`) -/
  fds : ∀ c, nfds = some c → fdsBelow c t v = true

/-- what `dec bo buf nfds d t off lim = some (v, o')` means, said with `enc`: the encoding of `v` stands in `buf`
    from `off` to `o'`, inside the limit; `v` nests at most `d` deep and its descriptor indices are below the count. -/
def EncodedAt (bo : ByteOrder) (buf : List UInt8) (nfds : Option Nat) (d : Nat) (t : Ty) (off lim : Nat) (v : Val)
    (o' : Nat) : Prop :=
  ∃ bs, Encodes bo buf nfds d t off lim v o' bs

/-- for `simp`, which does not see through a structure -/
theorem encodes_iff {bo : ByteOrder} {buf : List UInt8} {nfds : Option Nat} {d : Nat} {t : Ty} {off lim : Nat}
    {v : Val} {o' : Nat} {bs : List UInt8} :
    Encodes bo buf nfds d t off lim v o' bs ↔
      enc bo off t v = some bs ∧ HasAt buf off bs ∧ o' = off + bs.length ∧ o' ≤ lim ∧ lim ≤ buf.length ∧
        depthOf t v ≤ d ∧ ∀ c, nfds = some c → fdsBelow c t v = true := by
  constructor <;> rintro ⟨h1, h2, h3, h4, h5, h6, h7⟩ <;> exact ⟨h1, h2, h3, h4, h5, h6, h7⟩

def DecCorrect (bo : ByteOrder) (buf : List UInt8) (nfds : Option Nat) (d : Nat) : Prop :=
  ∀ t off lim v o', dec bo buf nfds d t off lim = some (v, o') ↔ EncodedAt bo buf nfds d t off lim v o'

theorem fdsOk_iff {nfds : Option Nat} {t : Ty} {v : Val} :
    fdsOk nfds t v = true ↔ ∀ c, nfds = some c → fdsBelow c t v = true := by
  cases nfds <;> simp [fdsOk]

theorem fdsBelow_num {c : Nat} {b : Base} {n : Nat} :
    fdsBelow c (.base b) (.num n) = true ↔ (b = .unixfd → n < c) := by
  cases b <;> simp [fdsBelow]

theorem fdsBelow_str (c : Nat) (b : Base) (s : List UInt8) : fdsBelow c (.base b) (.str s) = true := by
  cases b <;> rfl

theorem fdsBelowList_cons {c : Nat} {e : Ty} {v : Val} {vs : List Val} :
    fdsBelowList c e (v :: vs) = true ↔ fdsBelow c e v = true ∧ fdsBelowList c e vs = true := by
  simp only [fdsBelowList, Bool.and_eq_true]

theorem fdsBelowFields_cons {c : Nat} {t : Ty} {ts : List Ty} {v : Val} {vs : List Val} :
    fdsBelowFields c (t :: ts) (v :: vs) = true ↔ fdsBelow c t v = true ∧ fdsBelowFields c ts vs = true := by
  simp only [fdsBelowFields, Bool.and_eq_true]

theorem decBase_fixed_iff {bo : ByteOrder} {buf : List UInt8} {nfds : Option Nat} {b : Base}
    {k d off lim : Nat} {v : Val} {o' : Nat} (hk : b.fixedSize = some k) :
    decBase bo buf nfds b off lim = some (v, o') ↔ EncodedAt bo buf nfds d (.base b) off lim v o' := by
  rw [decBase_fixed_eq hk]
  simp only [EncodedAt, encodes_iff, enc, depthOf, Nat.zero_le, true_and, encBase_fixed hk]
  constructor
  · intro h
    split at h
    · cases h
    rename_i o ho
    split at h
    · cases h
    rename_i n hn
    obtain ⟨rfl, _, hb, hz⟩ := skipPad_iff.1 ho
    obtain ⟨hle, _, _, hw⟩ := readNum_iff.1 hn
    split at h
    case isFalse => cases h
    rename_i hlt
    obtain ⟨hv, hfd⟩ : (v, o') = (.num n, off + padLen b.align off + k) ∧
        ∀ c, nfds = some c → fdsBelow c (.base b) (.num n) = true := by
      split at h
      · split at h
        · rename_i hc
          exact ⟨(Option.some.inj h).symm, fun c hc' => by cases hc'; exact fdsBelow_num.2 fun _ => hc⟩
        · cases h
      · rename_i hne
        exact ⟨(Option.some.inj h).symm, fun c hc => fdsBelow_num.2 fun hb => (hne c hb hc).elim⟩
    cases hv
    refine ⟨_, ⟨n, rfl, hlt, rfl⟩, hasAt_append.2 ⟨hz, by rwa [zeros_length]⟩, ?_, hle, hb, hfd⟩
    simp only [List.length_append, zeros_length, bytesOf_length, Nat.add_assoc]
  · rintro ⟨_, ⟨n, rfl, hn, rfl⟩, hw, rfl, hl, hb, hfd⟩
    obtain ⟨hz, hw⟩ := hasAt_append.1 hw
    simp only [List.length_append, zeros_length, bytesOf_length, ← Nat.add_assoc] at hl hw ⊢
    rw [skipPad_iff.2 ⟨rfl, Nat.le_of_add_right_le hl, hb, hz⟩]
    dsimp only
    rw [readNum_iff.2 ⟨hl, hb, Nat.lt_of_lt_of_le hn (fixedSize_facts hk).2, hw⟩]
    dsimp only
    rw [if_pos hn]
    split
    · rw [if_pos (fdsBelow_num.1 (hfd _ rfl) rfl)]
    · rfl

theorem decBase_strLike_iff {bo : ByteOrder} {buf : List UInt8} {nfds : Option Nat} {b : Base} {d off lim : Nat}
    {v : Val} {o' : Nat} (hk : b.fixedSize = none) :
    decBase bo buf nfds b off lim = some (v, o') ↔ EncodedAt bo buf nfds d (.base b) off lim v o' := by
  rw [decBase_strLike_eq hk]
  simp only [EncodedAt, encodes_iff, enc, depthOf, Nat.zero_le, true_and]
  constructor
  · intro h
    split at h
    · cases h
    rename_i o ho
    split at h
    · cases h
    rename_i len hn
    split at h
    case isFalse => cases h
    rename_i hle
    split at h
    case isFalse => cases h
    rename_i hc
    cases h
    rw [Bool.and_eq_true, decide_eq_true_eq] at hc
    obtain ⟨rfl, _, hbl, hz⟩ := skipPad_iff.1 ho
    generalize hs : slice buf (off + padLen b.align off + b.align) len = s at hc ⊢
    obtain ⟨rfl, hlt, -, -, hw⟩ := frame_iff.1 ⟨hn, hle, hc.1, hs⟩
    refine ⟨_, encBase_eq_some.2 (.inr ⟨s, hk, rfl, hc.2, hlt, rfl⟩),
      hasAt_append.2 ⟨hz, by rwa [zeros_length]⟩, ?_, hle, hbl, fun c _ => fdsBelow_str ..⟩
    rw [List.length_append, zeros_length, length_frame, Nat.add_assoc, Nat.add_assoc]
  · rintro ⟨_, he, hw, rfl, hl, hbl, -⟩
    rcases encBase_eq_some.1 he with ⟨k, n, hk', -⟩ | ⟨s, -, rfl, hs, hn, rfl⟩
    · rw [hk] at hk'; cases hk'
    obtain ⟨hz, hw⟩ := hasAt_append.1 hw
    rw [List.length_append, zeros_length, length_frame, ← Nat.add_assoc, ← Nat.add_assoc] at hl ⊢
    rw [zeros_length] at hw
    obtain ⟨h1, h2, h3, h4⟩ := frame_iff.2 ⟨rfl, hn, hl, hbl, hw⟩
    rw [skipPad_iff.2 ⟨rfl, Nat.le_of_add_right_le (Nat.le_of_add_right_le hl), hbl, hz⟩]
    dsimp only
    rw [h1]
    dsimp only
    rw [if_pos h2, h3, h4, hs]
    simp only [decide_true, Bool.and_self, if_true]

theorem decBase_iff {bo : ByteOrder} {buf : List UInt8} {nfds : Option Nat} {b : Base} {d off lim : Nat}
    {v : Val} {o' : Nat} :
    decBase bo buf nfds b off lim = some (v, o') ↔ EncodedAt bo buf nfds d (.base b) off lim v o' := by
  cases hk : b.fixedSize with
  | some k => exact decBase_fixed_iff hk
  | none => exact decBase_strLike_iff hk

theorem decList_sound {bo : ByteOrder} {buf : List UInt8} {nfds : Option Nat} {d : Nat}
    (hC : DecCorrect bo buf nfds d) {e : Ty} {lim : Nat} (hb : lim ≤ buf.length) {fuel off : Nat} {vs : List Val}
    (h : decList bo buf nfds d e off lim fuel = some vs) :
    ∃ bs, encList bo off e vs = some bs ∧ HasAt buf off bs ∧ lim = off + bs.length ∧
      depthOfList e vs ≤ d ∧ ∀ c, nfds = some c → fdsBelowList c e vs = true := by
  have nil {off} (h : off = lim) : ∃ bs, encList bo off e [] = some bs ∧ HasAt buf off bs ∧ lim = off + bs.length ∧
      depthOfList e [] ≤ d ∧ ∀ c, nfds = some c → fdsBelowList c e [] = true :=
    ⟨[], rfl, hasAt_nil (h ▸ hb), h.symm, Nat.zero_le _, fun _ _ => rfl⟩
  induction fuel generalizing off vs with
  | zero =>
    rw [decList_zero] at h
    split at h
    · cases h; exact nil ‹_›
    · cases h
  | succ fuel ih =>
    rw [decList_succ] at h
    split at h
    · cases h; exact nil ‹_›
    split at h
    · cases h
    rename_i v o' hv
    split at h
    · cases h
    rename_i rest hr
    cases h
    obtain ⟨b, he, hw, rfl, -, -, hd, hf⟩ := (hC ..).1 hv
    obtain ⟨r, her, hw', rfl, hd', hf'⟩ := ih hr
    refine ⟨b ++ r, by simp only [encList, he, her], hasAt_append.2 ⟨hw, hw'⟩, ?_, Nat.max_le.2 ⟨hd, hd'⟩,
      fun c hc => fdsBelowList_cons.2 ⟨hf c hc, hf' c hc⟩⟩
    rw [List.length_append, Nat.add_assoc]

theorem decList_complete {bo : ByteOrder} {buf : List UInt8} {nfds : Option Nat} {d : Nat}
    (hC : DecCorrect bo buf nfds d) {e : Ty} {vs : List Val} {off fuel : Nat} {bs : List UInt8}
    (h : encList bo off e vs = some bs) (hw : HasAt buf off bs) (hf : bs.length ≤ fuel)
    (hd : depthOfList e vs ≤ d) (hfd : ∀ c, nfds = some c → fdsBelowList c e vs = true) :
    decList bo buf nfds d e off (off + bs.length) fuel = some vs := by
  induction vs generalizing off bs fuel with
  | nil =>
    cases h
    cases fuel <;> simp [decList]
  | cons v vs ih =>
    obtain ⟨b, r, hb, hr, rfl⟩ := encList_cons_some h
    have hpos := enc_pos hb
    obtain ⟨hwb, hwr⟩ := hasAt_append.1 hw
    have hl := hw.1
    rw [List.length_append] at hf hl ⊢
    obtain ⟨hd1, hd2⟩ := Nat.max_le.1 hd
    match fuel with
    | 0 => omega
    | fuel + 1 =>
      rw [decList_succ, if_neg (by omega),
        (hC ..).2 ⟨b, hb, hwb, rfl, Nat.add_le_add_left (Nat.le_add_right ..) _, hl, hd1,
          fun c hc => (fdsBelowList_cons.1 (hfd c hc)).1⟩]
      dsimp only
      rw [← Nat.add_assoc, ih hr hwr (by omega) hd2 fun c hc => (fdsBelowList_cons.1 (hfd c hc)).2]

theorem decFields_spec {bo : ByteOrder} {buf : List UInt8} {nfds : Option Nat} {d : Nat}
    (hC : DecCorrect bo buf nfds d) {lim : Nat} (hb : lim ≤ buf.length) {ts : List Ty} {off : Nat} (ho : off ≤ lim)
    {vs : List Val} {o' : Nat} :
    decFields bo buf nfds d ts off lim = some (vs, o') ↔
      ∃ bs, encFields bo off ts vs = some bs ∧ HasAt buf off bs ∧ o' = off + bs.length ∧ o' ≤ lim ∧
        depthOfFields ts vs ≤ d ∧ ∀ c, nfds = some c → fdsBelowFields c ts vs = true := by
  induction ts generalizing off vs o' with
  | nil =>
    rw [decFields_nil]
    constructor
    · intro h
      cases h
      exact ⟨[], rfl, hasAt_nil (Nat.le_trans ho hb), rfl, ho, Nat.zero_le _, fun _ _ => rfl⟩
    · rintro ⟨bs, he, -, rfl, -⟩
      cases vs with
      | nil => cases he; rfl
      | cons _ _ => simp [encFields] at he
  | cons t ts ih =>
    rw [decFields_cons]
    constructor
    · intro h
      split at h
      · cases h
      rename_i v o1 hv
      split at h
      · cases h
      rename_i rest o2 hr
      cases h
      obtain ⟨b, he, hw, rfl, hl, -, hd, hf⟩ := (hC ..).1 hv
      obtain ⟨r, her, hw', rfl, hl', hd', hf'⟩ := (ih hl).1 hr
      refine ⟨b ++ r, by simp only [encFields, he, her], hasAt_append.2 ⟨hw, hw'⟩, ?_, hl',
        Nat.max_le.2 ⟨hd, hd'⟩, fun c hc => fdsBelowFields_cons.2 ⟨hf c hc, hf' c hc⟩⟩
      rw [List.length_append, Nat.add_assoc]
    · rintro ⟨bs, he, hw, rfl, hl, hd, hf⟩
      cases vs with
      | nil => simp [encFields] at he
      | cons v vs =>
        obtain ⟨b, r, heb, her, rfl⟩ := encFields_cons_some he
        obtain ⟨hwb, hwr⟩ := hasAt_append.1 hw
        rw [List.length_append, ← Nat.add_assoc] at hl ⊢
        obtain ⟨hd1, hd2⟩ := Nat.max_le.1 hd
        have h1 := Nat.le_of_add_right_le hl
        rw [(hC ..).2 ⟨b, heb, hwb, rfl, h1, hb, hd1, fun c hc => (fdsBelowFields_cons.1 (hf c hc)).1⟩]
        dsimp only
        rw [(ih h1).2 ⟨r, her, hwr, rfl, hl, hd2, fun c hc => (fdsBelowFields_cons.1 (hf c hc)).2⟩]

/-- a container at budget `d + 1` holds what fits budget `d` (`depthOf` of a container is `1 + …`) -/
theorem one_add_le_succ {n d : Nat} : 1 + n ≤ d + 1 ↔ n ≤ d := by omega

theorem maxArrayLen_lt : maxArrayLen < 256 ^ 4 := by decide

theorem array_correct {bo : ByteOrder} {buf : List UInt8} {nfds : Option Nat} {d : Nat}
    (hC : DecCorrect bo buf nfds d) (e : Ty) (off lim : Nat) (v : Val) (o' : Nat) :
    dec bo buf nfds (d + 1) (.array e) off lim = some (v, o') ↔
      EncodedAt bo buf nfds (d + 1) (.array e) off lim v o' := by
  rw [dec_array]
  constructor
  · intro h
    split at h
    · cases h
    rename_i o ho
    split at h
    · cases h
    rename_i len hn
    split at h
    case isFalse => cases h
    rename_i hmax
    split at h
    · cases h
    rename_i o2 ho2
    split at h
    case isFalse => cases h
    rename_i hle
    split at h
    · cases h
    rename_i vs hvs
    cases h
    obtain ⟨rfl, -, hb, hz⟩ := skipPad_iff.1 ho
    obtain ⟨-, -, -, hw⟩ := readNum_iff.1 hn
    obtain ⟨rfl, -, -, hz2⟩ := skipPad_iff.1 ho2
    obtain ⟨body, hbody, hwb, hlen, hd, hf⟩ := decList_sound hC (Nat.le_trans hle hb) hvs
    cases Nat.add_left_cancel hlen
    refine ⟨_, by simp only [enc, hbody, if_pos hmax]; rfl, ?_, ?_, hle, hb, one_add_le_succ.2 hd, hf⟩
    · simp only [hasAt_append, zeros_length, bytesOf_length]
      exact ⟨hz, hw, hz2, hwb⟩
    · simp only [List.length_append, zeros_length, bytesOf_length, Nat.add_assoc]
  · rintro ⟨bs, he, hw, rfl, hl, hb, hd, hf⟩
    obtain ⟨vs, body, rfl, hbody, hmax, rfl⟩ := enc_array_inv he
    simp only [hasAt_append, zeros_length, bytesOf_length] at hw
    obtain ⟨hz, hw4, hz2, hwb⟩ := hw
    simp only [List.length_append, zeros_length, bytesOf_length, ← Nat.add_assoc] at hl ⊢
    have h3 := Nat.le_of_add_right_le hl
    have h2 := Nat.le_of_add_right_le h3
    rw [skipPad_iff.2 ⟨rfl, Nat.le_of_add_right_le h2, hb, hz⟩]
    dsimp only
    rw [readNum_iff.2 ⟨h2, hb, Nat.lt_of_le_of_lt hmax maxArrayLen_lt, hw4⟩]
    dsimp only
    rw [if_pos hmax, skipPad_iff.2 ⟨rfl, h3, hb, hz2⟩]
    dsimp only
    rw [if_pos hl, decList_complete hC hbody hwb (Nat.le_refl _) (one_add_le_succ.1 hd) hf]

theorem struct_correct {bo : ByteOrder} {buf : List UInt8} {nfds : Option Nat} {d : Nat}
    (hC : DecCorrect bo buf nfds d) (fs : List Ty) (off lim : Nat) (v : Val) (o' : Nat) :
    dec bo buf nfds (d + 1) (.struct fs) off lim = some (v, o') ↔
      EncodedAt bo buf nfds (d + 1) (.struct fs) off lim v o' := by
  rw [dec_struct]
  constructor
  · intro h
    split at h
    · cases h
    rename_i hne
    split at h
    · cases h
    rename_i o ho
    split at h
    · cases h
    rename_i vs o'' hf
    cases h
    obtain ⟨rfl, hol, hb, hz⟩ := skipPad_iff.1 ho
    obtain ⟨body, he, hw, rfl, hl, hd, hfd⟩ := (decFields_spec hC hb hol).1 hf
    refine ⟨_, by simp only [enc, if_neg hne, he]; rfl, hasAt_append.2 ⟨hz, by rwa [zeros_length]⟩,
      ?_, hl, hb, one_add_le_succ.2 hd, hfd⟩
    rw [List.length_append, zeros_length, Nat.add_assoc]
  · rintro ⟨bs, he, hw, rfl, hl, hb, hd, hf⟩
    cases v with
    | struct vs =>
      obtain ⟨hne, body, hbody, rfl⟩ := enc_struct_some he
      obtain ⟨hz, hwb⟩ := hasAt_append.1 hw
      rw [List.length_append, zeros_length, ← Nat.add_assoc] at hl ⊢
      rw [zeros_length] at hwb
      have h1 := Nat.le_of_add_right_le hl
      rw [if_neg (mt List.isEmpty_iff.1 hne), skipPad_iff.2 ⟨rfl, h1, hb, hz⟩]
      dsimp only
      rw [(decFields_spec hC hb h1).2 ⟨body, hbody, hwb, rfl, hl, one_add_le_succ.1 hd, hf⟩]
    | _ => rw [enc_bad rfl] at he; cases he

theorem hasAt_variant {bo : ByteOrder} {buf : List UInt8} {off n : Nat} {sg body : List UInt8} (hn : n < 256) :
    HasAt buf off (UInt8.ofNat n :: (sg ++ (0 :: body))) ↔
      HasAt buf off (bytesOf bo 1 n ++ (sg ++ [0])) ∧ HasAt buf (off + sg.length + 2) body := by
  have : UInt8.ofNat n :: (sg ++ (0 :: body)) = (bytesOf bo 1 n ++ (sg ++ [0])) ++ body := by
    rw [bytesOf_one bo n hn]; simp
  rw [this, hasAt_append, List.length_append, bytesOf_length, List.length_append, List.length_singleton,
    Nat.add_comm 1, Nat.add_assoc off]

theorem length_variant (n : UInt8) (sg body : List UInt8) :
    (n :: (sg ++ (0 :: body))).length = sg.length + 2 + body.length := by
  simp only [List.length_cons, List.length_append]
  omega

theorem variant_correct {bo : ByteOrder} {buf : List UInt8} {nfds : Option Nat} {d : Nat}
    (hC : DecCorrect bo buf nfds d) (off lim : Nat) (v : Val) (o' : Nat) :
    dec bo buf nfds (d + 1) .variant off lim = some (v, o') ↔
      EncodedAt bo buf nfds (d + 1) .variant off lim v o' := by
  rw [dec_variant]
  constructor
  · intro h
    split at h
    · cases h
    rename_i len hn
    split at h
    case isFalse => cases h
    rename_i hle
    split at h
    case isFalse => cases h
    rename_i hterm
    split at h
    case h_2 => cases h
    rename_i t hparse
    split at h
    · cases h
    rename_i w o'' hd
    cases h
    obtain ⟨hsg, hok⟩ := parse_sound _ t hparse
    obtain ⟨rfl, hlt, -, hbl, hw⟩ := frame_iff.1 ⟨hn, hle, hterm, hsg⟩
    obtain ⟨body, he, hwb, rfl, hl, -, hdv, hf⟩ := (hC ..).1 hd
    refine ⟨_, by simp only [enc, hok, if_true, he], (hasAt_variant hlt).2 ⟨hw, hwb⟩, ?_, hl, hbl,
      one_add_le_succ.2 hdv, hf⟩
    rw [length_variant, ← Nat.add_assoc, ← Nat.add_assoc]
  · rintro ⟨bs, he, hw, rfl, hl, hb, hd, hf⟩
    cases v with
    | variant t w =>
      obtain ⟨hok, body, hbody, rfl⟩ := enc_variant_some he
      have hlen : (sigBytes t).length < 256 := by
        simp only [variantTypeOk, Bool.and_eq_true, decide_eq_true_eq] at hok
        exact Nat.lt_succ_of_le hok.2
      obtain ⟨hw1, hw2⟩ := (hasAt_variant hlen).1 hw
      rw [length_variant, ← Nat.add_assoc, ← Nat.add_assoc] at hl ⊢
      obtain ⟨h1, h2, h3, h4⟩ := frame_iff.2 ⟨rfl, hlen, Nat.le_of_add_right_le hl, hb, hw1⟩
      rw [h1]
      dsimp only
      rw [if_pos h2, if_pos h3, h4, parse_sigBytes t hok]
      dsimp only
      rw [(hC ..).2 ⟨body, hbody, hw2, rfl, hl, hb, one_add_le_succ.1 hd, hf⟩]
    | _ => rw [enc_bad rfl] at he; cases he

theorem dict_correct {bo : ByteOrder} {buf : List UInt8} {nfds : Option Nat} {d : Nat} (k : Base) (vt : Ty)
    (off lim : Nat) (v : Val) (o' : Nat)
    (hA : ∀ off lim v o', dec bo buf nfds (d + 2) (.array (.struct [.base k, vt])) off lim = some (v, o') ↔
      EncodedAt bo buf nfds (d + 2) (.array (.struct [.base k, vt])) off lim v o') :
    dec bo buf nfds (d + 2) (.dict k vt) off lim = some (v, o') ↔
      EncodedAt bo buf nfds (d + 2) (.dict k vt) off lim v o' := by
  rw [dec_dict_eq_array, hA]
  simp only [EncodedAt, encodes_iff, enc_dict_eq_array]
  refine exists_congr fun bs => and_congr_right fun he => ?_
  obtain ⟨es, body, rfl, hb, -⟩ := enc_array_inv he
  rw [← encEntries_eq_encList] at hb
  obtain ⟨h1, h2⟩ := entries_as_structs (k := k) (vt := vt) (encEntries_shaped hb)
  simp only [depthOf, fdsBelow, h2, Nat.add_comm 1, Nat.add_comm 2, Nat.add_le_add_iff_right, h1]

theorem dec_correct {bo : ByteOrder} {buf : List UInt8} {nfds : Option Nat} {d : Nat} :
    DecCorrect bo buf nfds d := by
  induction d using Nat.strongRecOn with
  | _ d ih =>
    intro t off lim v o'
    match t, d with
    | .base b, d =>
      rw [dec_base, decBase_iff]
    | .array _, 0 | .dict _ _, 0 | .struct _, 0 | .variant, 0 =>
      rw [dec_zero (by intro b; simp)]
      refine iff_of_false nofun ?_
      rintro ⟨bs, he, -, -, -, -, hd, -⟩
      cases v <;> simp [enc, depthOf] at he hd
    | .dict _ _, 1 =>
      rw [dec_dict_one]
      refine iff_of_false nofun ?_
      rintro ⟨bs, he, -, -, -, -, hd, -⟩
      cases v <;> simp [enc, depthOf] at he hd
      omega
    | .array e, d + 1 => exact array_correct (ih d (by omega)) e off lim v o'
    | .dict k vt, d + 2 =>
      exact dict_correct k vt off lim v o' (array_correct (ih (d + 1) (by omega)) _)
    | .struct fs, d + 1 => exact struct_correct (ih d (by omega)) fs off lim v o'
    | .variant, d + 1 => exact variant_correct (ih d (by omega)) off lim v o'

theorem dec_iff {bo : ByteOrder} {buf : List UInt8} {nfds : Option Nat} {d : Nat} {t : Ty} {off lim : Nat}
    {v : Val} {o' : Nat} :
    dec bo buf nfds d t off lim = some (v, o') ↔ EncodedAt bo buf nfds d t off lim v o' :=
  dec_correct t off lim v o'

end Rustbus.Wire
