import RustbusModel.Model.Marshal
import RustbusModel.Lemmas.WireEnc
/-!
The mechanism-level marshaller computes exactly `Wire.enc`.
-/
namespace Rustbus.Marshal
open Rustbus.Bytes Rustbus.Wire

theorem padTo_eq (a : Nat) (buf : List UInt8) : padTo a buf = buf ++ zeros (padLen a buf.length) := rfl

@[simp] theorem padTo_length (a : Nat) (buf : List UInt8) :
    (padTo a buf).length = buf.length + padLen a buf.length := by
  simp [padTo]

theorem insertU32_at (bo : ByteOrder) (val pos : Nat) (pre four rest : List UInt8)
    (hpos : pos = pre.length) (h4 : four.length = 4) :
    insertU32 bo val pos (pre ++ (four ++ rest)) = pre ++ (bytesOf bo 4 val ++ rest) := by
  subst hpos
  unfold insertU32
  have h1 : (pre ++ (four ++ rest)).take pre.length = pre := by simp
  have h2 : (pre ++ (four ++ rest)).drop (pre.length + 4) = rest := by simp [← h4]
  rw [h1, h2]

theorem marshalBaseM_eq_encBase (bo : ByteOrder) (b : Base) (v : Val) (buf : List UInt8) :
    marshalBaseM bo b v buf = (encBase bo buf.length b v).map (buf ++ ·) := by
  unfold marshalBaseM encBase
  -- the two branch alike; where neither writes anything both sides are `none`
  cases hk : b.fixedSize <;> cases v <;> try rfl
  · dsimp only
    split
    · split
      · rfl
      · split <;> simp only [padTo_eq, Option.map_some, Option.map_none, List.append_assoc]
    · rfl
  · dsimp only
    split <;> simp only [padTo_eq, Option.map_some, Option.map_none, List.append_assoc]

theorem marshalM_bad {bo : ByteOrder} {t : Ty} {v : Val} {buf : List UInt8} (h : shapeOk t v = false) :
    marshalM bo t v buf = none := by
  cases t <;> cases v <;> simp [shapeOk] at h <;> simp [marshalM]

theorem marshalEntriesM_eq_marshalListM (bo : ByteOrder) (k : Base) (vt : Ty) (es : List Val) (buf : List UInt8) :
    marshalEntriesM bo k vt es buf = marshalListM bo (.struct [.base k, vt]) es buf := by
  induction es generalizing buf with
  | nil => simp only [marshalEntriesM, marshalListM]
  | cons h tl ih =>
    match h with
    | .struct [kv, vv] =>
      simp only [marshalEntriesM, marshalListM, marshalM, marshalFieldsM, List.isEmpty_cons, Bool.false_eq_true,
        if_false]
      cases marshalBaseM bo k kv (padTo 8 buf) with
      | none => rfl
      | some b1 =>
        simp only
        cases marshalM bo vt vv b1 with
        | none => rfl
        | some b2 => exact ih b2
    | .struct [] | .num _ | .str _ | .arr _ | .variant _ _ =>
      simp [marshalEntriesM, marshalListM, marshalM, marshalFieldsM]
    | .struct [x] =>
      simp only [marshalEntriesM, marshalListM, marshalM, marshalFieldsM, List.isEmpty_cons, Bool.false_eq_true,
        if_false]
      cases marshalBaseM bo k x (padTo 8 buf) <;> rfl
    | .struct (x :: y :: _ :: _) =>
      simp only [marshalEntriesM, marshalListM, marshalM, marshalFieldsM, List.isEmpty_cons, Bool.false_eq_true,
        if_false]
      cases marshalBaseM bo k x (padTo 8 buf) with
      | none => rfl
      | some b1 => simp only; cases marshalM bo vt y b1 <;> rfl

theorem marshalM_dict_eq_array (bo : ByteOrder) (k : Base) (vt : Ty) (v : Val) (buf : List UInt8) :
    marshalM bo (.dict k vt) v buf = marshalM bo (.array (.struct [.base k, vt])) v buf := by
  cases v with
  | arr es => simp only [marshalM, marshalEntriesM_eq_marshalListM, Ty.align]; rfl
  | _ => simp only [marshalM]

/-- placeholder, padding and content appended, then the length patched in: the framing of an array -/
theorem backpatch (bo : ByteOrder) (a : Nat) (buf body : List UInt8) :
    insertU32 bo body.length (padTo 4 buf).length (padTo a (padTo 4 buf ++ [0, 0, 0, 0]) ++ body) =
      buf ++ (zeros (padLen 4 buf.length) ++ (bytesOf bo 4 body.length ++
        (zeros (padLen a (buf.length + padLen 4 buf.length + 4)) ++ body))) := by
  have e : padTo a (padTo 4 buf ++ [0, 0, 0, 0]) ++ body =
      padTo 4 buf ++ ([0, 0, 0, 0] ++ (zeros (padLen a (buf.length + padLen 4 buf.length + 4)) ++ body)) := by
    simp [padTo_eq, Nat.add_assoc]
  rw [e, insertU32_at bo _ _ _ _ _ rfl rfl, padTo_eq, List.append_assoc]

theorem marshalM_eq_enc_all :
    (∀ t v, ∀ bo buf, marshalM bo t v buf = (enc bo buf.length t v).map (buf ++ ·)) ∧
    (∀ e vs, ∀ bo buf, marshalListM bo e vs buf = (encList bo buf.length e vs).map (buf ++ ·)) ∧
    (∀ fs vs, ∀ bo buf, marshalFieldsM bo fs vs buf = (encFields bo buf.length fs vs).map (buf ++ ·)) := by
  apply tyval_induct
  case hbase =>
    intro b v bo buf
    simp only [marshalM, enc]
    exact marshalBaseM_eq_encBase bo b v buf
  case harr =>
    intro e vs ih bo buf
    have hl : (padTo e.align (padTo 4 buf ++ [0, 0, 0, 0])).length =
        buf.length + padLen 4 buf.length + 4 + padLen e.align (buf.length + padLen 4 buf.length + 4) := by
      simp
    simp only [marshalM, enc]
    rw [ih, ← hl]
    cases encList bo (padTo e.align (padTo 4 buf ++ [0, 0, 0, 0])).length e vs with
    | none => rfl
    | some body =>
      simp only [Option.map_some, List.length_append, Nat.add_sub_cancel_left, backpatch]
      split <;> rfl
  case hdict =>
    intro k vt es ih bo buf
    rw [marshalM_dict_eq_array, enc_dict_eq_array]
    exact ih bo buf
  case hstruct =>
    intro fs vs ih bo buf
    simp only [marshalM, enc]
    split
    · rfl
    · rw [ih, padTo_length]
      cases encFields bo (buf.length + padLen 8 buf.length) fs vs with
      | none => rfl
      | some body => simp [padTo_eq]
  case hvar =>
    intro t v ih bo buf
    simp only [marshalM, enc]
    split
    · rw [ih]
      have hl : (buf ++ UInt8.ofNat (sigBytes t).length :: (sigBytes t ++ [0])).length =
          buf.length + (sigBytes t).length + 2 := by
        simp; omega
      rw [hl]
      cases enc bo (buf.length + (sigBytes t).length + 2) t v with
      | none => rfl
      | some body => simp
    · rfl
  case hbad =>
    intro t v hs bo buf
    rw [marshalM_bad hs, enc_bad hs]; rfl
  case hLnil => intros; simp [marshalListM, encList]
  case hLcons =>
    intro e v vs ih1 ih2 bo buf
    simp only [marshalListM, encList, ih1]
    cases enc bo buf.length e v with
    | none => rfl
    | some b =>
      simp only [Option.map_some, ih2, List.length_append]
      cases encList bo (buf.length + b.length) e vs <;> simp
  case hFcons =>
    intro t ts v vs ih1 ih2 bo buf
    simp only [marshalFieldsM, encFields, ih1]
    cases enc bo buf.length t v with
    | none => rfl
    | some b =>
      simp only [Option.map_some, ih2, List.length_append]
      cases encFields bo (buf.length + b.length) ts vs <;> simp
  case hFnil | hFbad1 | hFbad2 => intros; simp [marshalFieldsM, encFields]

/-- Padding from the buffer length, placeholders and back-patching produce the encoding at the absolute offset
    `buf.length`, and fail exactly when there is none. -/
theorem marshalM_eq_enc (bo : ByteOrder) (t : Ty) (v : Val) (buf : List UInt8) :
    marshalM bo t v buf = (enc bo buf.length t v).map (buf ++ ·) :=
  marshalM_eq_enc_all.1 t v bo buf

theorem marshalM_eq_some {bo : ByteOrder} {t : Ty} {v : Val} {buf out : List UInt8} :
    marshalM bo t v buf = some out ↔ ∃ bs, enc bo buf.length t v = some bs ∧ out = buf ++ bs := by
  rw [marshalM_eq_enc, Option.map_eq_some_iff]
  exact exists_congr fun bs => and_congr_right fun _ => eq_comm

theorem fast_facts {b : Base} {k : Nat} (hb : fastElem b = true) (hk : b.fixedSize = some k) :
    b.align = k ∧ b.bound = 256 ^ k := by
  cases b <;> first | (cases hk; exact ⟨rfl, rfl⟩) | cases hb

theorem flatten_bytesOf_length (bo : ByteOrder) (k : Nat) (ns : List Nat) :
    ((ns.map (bytesOf bo k)).flatten).length = k * ns.length := by
  induction ns with
  | nil => simp
  | cons n ns ih => simp [ih, Nat.mul_succ]; omega

/-- aligned fixed-size elements are laid out back to back without padding -/
theorem encList_fast (bo : ByteOrder) (b : Base) (k : Nat) (hb : fastElem b = true)
    (hk : b.fixedSize = some k) (ns : List Nat) (o : Nat) (ho : o % k = 0)
    (hn : ∀ n ∈ ns, n < 256 ^ k) :
    encList bo o (.base b) (ns.map Val.num) = some ((ns.map (bytesOf bo k)).flatten) := by
  obtain ⟨ha, hbd⟩ := fast_facts hb hk
  induction ns generalizing o with
  | nil => simp [encList]
  | cons n ns ih =>
    have h1 : encBase bo o b (.num n) = some (bytesOf bo k n) := by
      refine (encBase_fixed hk).2 ⟨n, rfl, ?_, ?_⟩
      · rw [hbd]; exact hn n (by simp)
      · rw [ha, padLen_zero_of_mod ho]; simp [zeros]
    simp only [List.map_cons, encList, enc, h1, bytesOf_length, List.flatten_cons]
    rw [ih (o + k) (by rw [Nat.add_mod_right]; exact ho) (fun m hm => hn m (by simp [hm]))]

theorem marshalSliceFastM_eq_enc (bo : ByteOrder) (b : Base) (k : Nat) (ns : List Nat) (buf : List UInt8)
    (hb : fastElem b = true) (hk : b.fixedSize = some k) (hn : ∀ n ∈ ns, n < 256 ^ k) :
    marshalSliceFastM bo b k ns buf =
      (enc bo buf.length (.array (.base b)) (.arr (ns.map Val.num))).map (buf ++ ·) := by
  have hal : (Ty.base b).align = k := (fast_facts hb hk).1
  unfold marshalSliceFastM
  simp only [enc, hal]
  rw [encList_fast bo b k hb hk ns _ (padLen_add_mod (fixedSize_facts hk).1 _) hn]
  simp only [flatten_bytesOf_length]
  split
  · simp [padTo_eq, List.append_assoc, Nat.add_assoc]
  · rfl

end Rustbus.Marshal

#print axioms Rustbus.Marshal.marshalM_eq_enc
#print axioms Rustbus.Marshal.marshalSliceFastM_eq_enc
