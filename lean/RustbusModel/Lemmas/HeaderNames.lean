import RustbusModel.Model.Header
import RustbusModel.Lemmas.Names
import RustbusModel.Lemmas.WireBase
/-!
A valid interface / member / error / bus name is plain ASCII without NUL, hence a valid D-Bus string
(`strOk .string`): what `write_string` emits for it is what `enc` emits.
-/
namespace Rustbus.Header
open Rustbus.Bytes Rustbus.Wire Rustbus.Names

theorem utf8_of_ascii (bs : List UInt8) (h : ∀ b ∈ bs, b < 0x80) : Utf8.valid bs = true := by
  induction bs with
  | nil => rfl
  | cons b bs ih =>
    unfold Utf8.valid
    rw [if_pos (h b List.mem_cons_self)]
    exact ih fun x hx => h x (List.mem_cons_of_mem b hx)

theorem strOk_of_ascii (bs : List UInt8) (h : ∀ c ∈ latin1 bs, Ascii c) : strOk .string bs = true := by
  have hb : ∀ b ∈ bs, 0 < b.toNat ∧ b.toNat < 128 := by
    intro b hb
    have := h (Char.ofNat b.toNat) (List.mem_map_of_mem hb)
    rwa [Ascii, char_toNat_ofNat _ b.toNat_lt] at this
  rw [strOk, Bool.and_eq_true, Bool.not_eq_true', Bool.eq_false_iff]
  exact ⟨utf8_of_ascii bs fun b hbm => UInt8.lt_iff_toNat_lt.mpr (hb b hbm).2,
    fun hc => absurd (hb 0 (List.contains_iff_mem.mp hc)).1 (Nat.lt_irrefl 0)⟩

theorem nameOk_strOk {code : Nat} {s : List UInt8} (hc : code ≠ 1) (h : nameOk code s = true) :
    strOk .string s = true := by
  apply strOk_of_ascii
  unfold nameOk at h
  split at h
  case h_1 => exact absurd rfl hc
  case h_2 | h_4 => exact SpecInterface.ascii ((validateInterface_spec _).mp h)
  case h_3 => exact SpecMember.ascii ((validateMembername_spec _).mp h)
  case h_5 | h_6 => exact SpecBusname.ascii ((validateBusname_spec _).mp h)
  case h_7 => simp at h

theorem nameOk_path (s : List UInt8) : nameOk 1 s = strOk .objpath s := rfl

end Rustbus.Header
