import RustbusModel.Lemmas.FdTableOps
/-!
C11: what each operation leaves alone (`Same`, `Keep`), how one step changes the caller-owned set, the FIFO
invariant of the socket (`Fifo`), and what dropping the cells made by a failed push or for a refused message
restores (`dropRefs_restores`).
-/
namespace Rustbus.FdTable

theorem libClose_eq (s : State) (d : Nat) : ∃ o e,
    libClose s d = { s with «open» := o, libClosed := s.libClosed ++ [d], err := e } := by
  unfold libClose
  split
  · exact ⟨removeFd s.open d, s.err, rfl⟩
  · exact ⟨s.open, true, rfl⟩

/-- `decr` touches only `cells`, `open`, `libClosed`, `err`; of the cells at most cell `c`, and of that only `refs` -/
theorem decr_eq (s : State) (c : Nat) : ∃ cs o lc e,
    decr s c = { s with cells := cs, «open» := o, libClosed := lc, err := e } ∧
    (cs = s.cells ∨ ∃ x r, s.cells[c]? = some x ∧ cs = s.cells.set c { x with refs := r }) := by
  unfold decr
  cases hx : s.cells[c]? with
  | none => exact ⟨s.cells, s.open, s.libClosed, true, rfl, Or.inl rfl⟩
  | some x =>
    dsimp only
    by_cases h0 : x.refs = 0
    · exact ⟨s.cells, s.open, s.libClosed, true, by rw [if_pos h0], Or.inl rfl⟩
    · by_cases h1 : x.refs = 1
      · by_cases ht : x.taken = true
        · exact ⟨_, s.open, s.libClosed, s.err, by rw [if_neg h0, if_pos h1, if_pos ht], Or.inr ⟨x, 0, rfl, rfl⟩⟩
        · obtain ⟨o, e, h⟩ := libClose_eq { s with cells := s.cells.set c { x with refs := 0 } } x.fd
          exact ⟨_, o, _, e, by rw [if_neg h0, if_pos h1, if_neg ht]; exact h, Or.inr ⟨x, 0, rfl, rfl⟩⟩
      · exact ⟨_, s.open, s.libClosed, s.err, by rw [if_neg h0, if_neg h1], Or.inr ⟨x, _, rfl, rfl⟩⟩

/-- `dropRefs` touches only `cells`, `open`, `libClosed`, `err`; every cell keeps `fd` and `taken`, and a cell not
    in `l` keeps `refs` as well -/
theorem dropRefs_eq : ∀ (l : List Nat) (s : State), ∃ cs o lc e,
    dropRefs s l = { s with cells := cs, «open» := o, libClosed := lc, err := e } ∧
    ∀ (c : Nat) (x : Cell), s.cells[c]? = some x → ∃ r, cs[c]? = some { x with refs := r } ∧ (c ∉ l → r = x.refs)
  | [], s => ⟨_, _, _, _, rfl, fun _ x hx => ⟨x.refs, hx, fun _ => rfl⟩⟩
  | c :: l, s => by
    obtain ⟨cs1, o1, lc1, e1, h1, hc1⟩ := decr_eq s c
    obtain ⟨cs, o, lc, e, h2, hc2⟩ := dropRefs_eq l (decr s c)
    rw [h1] at h2 hc2
    refine ⟨cs, o, lc, e, ?_, fun k x hx => ?_⟩
    · show dropRefs (decr s c) l = _
      rw [h1]; exact h2
    · have : ∃ r, cs1[k]? = some { x with refs := r } ∧ (k ≠ c → r = x.refs) := by
        rcases hc1 with rfl | ⟨x1, r, hx1, rfl⟩
        · exact ⟨x.refs, hx, fun _ => rfl⟩
        · rw [getElem?_set_of_some _ k hx1]
          by_cases e : k = c
          · subst e; rw [hx] at hx1; cases hx1; exact ⟨r, by simp, fun e => absurd rfl e⟩
          · exact ⟨x.refs, by simpa [e] using hx, fun _ => rfl⟩
      obtain ⟨r1, hr1, e1⟩ := this
      obtain ⟨r2, hr2, e2⟩ := hc2 k _ hr1
      exact ⟨r2, hr2, fun hk => by
        simp only [List.mem_cons, not_or] at hk
        rw [e2 hk.2]; exact e1 hk.1⟩

theorem dropRefs_other {l : List Nat} {s : State} {c : Nat} {x : Cell} (hx : s.cells[c]? = some x) (hc : c ∉ l) :
    (dropRefs s l).cells[c]? = some x := by
  obtain ⟨_, _, _, _, h, hcs⟩ := dropRefs_eq l s
  obtain ⟨r, hr, e⟩ := hcs c x hx
  rw [h, hr, e hc]

/-- the parts of the state that only the caller's own operations and `take` / only the socket operations change -/
structure Same (s s' : State) : Prop where
  user : s'.user = s.user
  wire : s'.wire = s.wire
  enq : s'.enq = s.enq
  deq : s'.deq = s.deq

theorem Same.refl (s : State) : Same s s := ⟨rfl, rfl, rfl, rfl⟩

theorem Same.trans {a b c : State} (h1 : Same a b) (h2 : Same b c) : Same a c :=
  ⟨h2.user.trans h1.user, h2.wire.trans h1.wire, h2.enq.trans h1.enq, h2.deq.trans h1.deq⟩

/-- the caller's handles and raw numbers are the same, and no cell lost its descriptor or changed it -/
structure Keep (s s' : State) : Prop where
  handles : s'.handles = s.handles
  raws : s'.raws = s.raws
  cells : ∀ (c : Nat) (x : Cell), s.cells[c]? = some x →
    ∃ x', s'.cells[c]? = some x' ∧ x'.fd = x.fd ∧ x'.taken = x.taken

theorem Keep.refl (s : State) : Keep s s := ⟨rfl, rfl, fun _ x h => ⟨x, h, rfl, rfl⟩⟩

theorem Keep.trans {a b c : State} (h1 : Keep a b) (h2 : Keep b c) : Keep a c :=
  ⟨h2.handles.trans h1.handles, h2.raws.trans h1.raws, fun k x hx => by
    obtain ⟨x1, hx1, e1, e2⟩ := h1.cells k x hx
    obtain ⟨x2, hx2, e3, e4⟩ := h2.cells k x1 hx1
    exact ⟨x2, hx2, e3.trans e1, e4.trans e2⟩⟩

theorem Keep.held {s s' : State} (hk : Keep s s') (hinv : Inv s') {h c : Nat} {x : Cell}
    (hh : s.handles[h]? = some (some c)) (hx : s.cells[c]? = some x) (htk : x.taken = false) :
    ∃ x', s'.cells[c]? = some x' ∧ x'.fd = x.fd ∧ x'.taken = false ∧ 0 < x'.refs ∧ x.fd ∈ keys s'.open := by
  obtain ⟨x', hx', e1, e2⟩ := hk.cells c x hx
  obtain ⟨x'', hx'', hr, h4⟩ := live_cell hinv (refCount_pos_of_handle (hk.handles ▸ hh))
  cases hx'.symm.trans hx''
  exact ⟨x', hx', e1, e2.trans htk, hr, e1 ▸ (h4 (e2.trans htk)).1⟩

/-- what the operations on a body leave alone: `.1` the caller's set and the socket (`Same`), `.2` the handles, the
    raw numbers and each cell's descriptor (`Keep`) -/
def Spares (s s' : State) : Prop := Same s s' ∧ Keep s s'

theorem Spares.refl (s : State) : Spares s s := ⟨.refl s, .refl s⟩

theorem Spares.trans {a b c : State} (h1 : Spares a b) (h2 : Spares b c) : Spares a c :=
  ⟨h1.1.trans h2.1, h1.2.trans h2.2⟩

theorem spares_dropRefs (s : State) (l : List Nat) : Spares s (dropRefs s l) := by
  obtain ⟨_, _, _, _, h, hcs⟩ := dropRefs_eq l s
  rw [h]
  exact ⟨⟨rfl, rfl, rfl, rfl⟩, rfl, rfl, fun c x hx => (hcs c x hx).elim fun _ hr => ⟨_, hr.1, rfl, rfl⟩⟩

theorem same_dropRefs (s : State) (l : List Nat) : Same s (dropRefs s l) := (spares_dropRefs s l).1

theorem same_decr (s : State) (c : Nat) : Same s (decr s c) := same_dropRefs s [c]

theorem same_incr (s : State) (c : Nat) : Same s (incr s c) := by
  unfold incr
  repeat' split
  all_goals exact ⟨rfl, rfl, rfl, rfl⟩

theorem incr_handles (s : State) (c : Nat) : (incr s c).handles = s.handles ∧ (incr s c).raws = s.raws := by
  unfold incr
  repeat' split
  all_goals exact ⟨rfl, rfl⟩

theorem same_installAll : ∀ (fs : List Nat) (s : State), Same s (installAll s fs).1
  | [], s => Same.refl s
  | f :: fs, s => by
    simp only [installAll]
    exact Same.trans (b := (createOwned s f).1) ⟨rfl, rfl, rfl, rfl⟩ (same_installAll fs (createOwned s f).1)

theorem spares_bodies {s : State} {bs : List Body} {e : Bool} : Spares s { s with bodies := bs, err := e } :=
  ⟨⟨rfl, rfl, rfl, rfl⟩, rfl, rfl, fun _ x h => ⟨x, h, rfl, rfl⟩⟩

theorem PushExt.spares {b : Nat} {bd : Body} {s s1 : State} {news : List Nat} (h : PushExt b bd s s1 news) :
    Spares s s1 :=
  ⟨⟨h.user, h.wire, h.enq, h.deq⟩, h.handles, h.raws, fun c x hx => ⟨x, h.cells c x hx, rfl, rfl⟩⟩

theorem spares_push (s : State) (b : Nat) (items : List Item) : Spares s (push s b items).1 := by
  rcases push_cases s b items with e | ⟨_, _, _, hext, ⟨_, e⟩ | e⟩ <;> rw [e]
  · exact .refl s
  · exact hext.spares
  · exact (hext.spares.trans spares_bodies).trans (spares_dropRefs _ _)

theorem spares_reset (s : State) (b : Nat) : Spares s (reset s b).1 := by
  unfold reset
  split
  · exact .refl s
  · split
    · exact .refl s
    · exact spares_bodies.trans (spares_dropRefs _ _)

theorem spares_dropBody (s : State) (b : Nat) : Spares s (dropBody s b).1 := by
  unfold dropBody
  split
  · exact .refl s
  · split
    · exact .refl s
    · exact spares_bodies.trans (spares_dropRefs _ _)

theorem same_unmarshalFd (s : State) (b j : Nat) : Same s (unmarshalFd s b j).1 := by
  unfold unmarshalFd
  split
  · exact Same.refl s
  · split
    · exact Same.refl s
    · split
      · exact Same.refl s
      · split
        · exact Same.refl s
        · exact Same.trans (same_incr _ _) ⟨rfl, rfl, rfl, rfl⟩

theorem same_get (s : State) (h : Nat) : Same s (get s h).1 := by
  unfold get
  repeat' split
  all_goals exact ⟨rfl, rfl, rfl, rfl⟩

theorem same_dupHandle (s : State) (h : Nat) : Same s (dupHandle s h).1 := by
  unfold dupHandle
  split
  · split
    · exact ⟨rfl, rfl, rfl, rfl⟩
    · split
      · exact Same.refl s
      · split
        · exact Same.refl s
        · exact ⟨rfl, rfl, rfl, rfl⟩
  · exact Same.refl s

theorem same_cloneHandle (s : State) (h : Nat) : Same s (cloneHandle s h).1 := by
  unfold cloneHandle
  split
  · exact Same.trans (same_incr _ _) ⟨rfl, rfl, rfl, rfl⟩
  · exact Same.refl s

theorem same_dropHandle (s : State) (h : Nat) : Same s (dropHandle s h).1 := by
  unfold dropHandle
  split
  · exact Same.trans (b := { s with handles := s.handles.set h none }) ⟨rfl, rfl, rfl, rfl⟩ (same_decr _ _)
  · exact Same.refl s

theorem take_frame (s : State) (h : Nat) :
    ((take s h).1.wire = s.wire ∧ (take s h).1.enq = s.enq ∧ (take s h).1.deq = s.deq) ∧
    ∀ d, d ∈ (take s h).1.user ↔ d ∈ s.user ∨ (take s h).2 = .fd (some d) := by
  unfold take
  split
  · simp only
    split
    · exact ⟨⟨rfl, rfl, rfl⟩, by simp⟩
    · split
      all_goals
        refine ⟨⟨(same_decr _ _).wire, (same_decr _ _).enq, (same_decr _ _).deq⟩, fun d => ?_⟩
        rw [(same_decr _ _).user]
        simp [eq_comm]
  · exact ⟨⟨rfl, rfl, rfl⟩, by simp⟩

/-- `u` without the number `d0` that a slot `o` holds (`o`: the `s.raws[r]?` of `userClose` and `wrap`) -/
theorem mem_filter_ne_slot {u : List Nat} {o : Option Nat} {d0 d : Nat} (ho : o = some d0) :
    d ∈ u.filter (· != d0) ↔ d ∈ u ∧ o ≠ some d := by
  subst ho
  simp only [List.mem_filter, bne_iff_ne, ne_eq, Option.some.injEq]
  exact and_congr_right fun _ => ⟨fun a e => a e.symm, fun a e => a e.symm⟩

theorem mem_iff_of_slot_not_mem {u : List Nat} {o : Option Nat} {d0 d : Nat} (ho : o = some d0) (hu : d0 ∉ u) :
    d ∈ u ↔ d ∈ u ∧ o ≠ some d :=
  ⟨fun a => ⟨a, fun e => hu (Option.some.inj (ho.symm.trans e) ▸ a)⟩, And.left⟩

theorem userClose_frame (s : State) (r : Nat) :
    ((userClose s r).1.wire = s.wire ∧ (userClose s r).1.enq = s.enq ∧ (userClose s r).1.deq = s.deq) ∧
    ∀ d, d ∈ (userClose s r).1.user ↔ d ∈ s.user ∧ s.raws[r]? ≠ some d := by
  unfold userClose
  split
  · next d0 hr =>
    split
    · exact ⟨⟨rfl, rfl, rfl⟩, fun d => mem_filter_ne_slot hr⟩
    · next hu => exact ⟨⟨rfl, rfl, rfl⟩, fun d => mem_iff_of_slot_not_mem hr hu⟩
  · next hr => exact ⟨⟨rfl, rfl, rfl⟩, fun d => by simp [hr]⟩

theorem wrap_frame (s : State) (r : Nat) :
    ((wrap s r).1.wire = s.wire ∧ (wrap s r).1.enq = s.enq ∧ (wrap s r).1.deq = s.deq) ∧
    ∀ d, d ∈ (wrap s r).1.user ↔ d ∈ s.user ∧ s.raws[r]? ≠ some d := by
  unfold wrap
  split
  · next d0 hr =>
    split
    · exact ⟨⟨rfl, rfl, rfl⟩, fun d => mem_filter_ne_slot hr⟩
    · next hu => exact ⟨⟨rfl, rfl, rfl⟩, fun d => mem_iff_of_slot_not_mem hr hu⟩
  · next hr => exact ⟨⟨rfl, rfl, rfl⟩, fun d => by simp [hr]⟩

theorem send_frame (s : State) (b : Nat) : Keep s (send s b).1 ∧ (send s b).1.user = s.user := by
  unfold send
  split
  · exact ⟨.refl s, rfl⟩
  · split
    · exact ⟨.refl s, rfl⟩
    · split
      · exact ⟨.refl s, rfl⟩
      · exact ⟨⟨rfl, rfl, fun _ x h => ⟨x, h, rfl, rfl⟩⟩, rfl⟩

theorem receive_user (s : State) : (receive s).1.user = s.user := by
  unfold receive
  split
  · rfl
  · split
    · exact (same_installAll _ _).user
    · exact ((same_installAll _ _).trans (same_dropRefs _ _)).user

theorem user_step (s : State) (op : Op) (d : Nat) :
    d ∈ (step s op).1.user ↔
      (d ∈ s.user ∧ ¬ ∃ r, (op = .userClose r ∨ op = .wrap r) ∧ s.raws[r]? = some d) ∨
      (∃ f, op = .userOpen f ∧ d = s.nextFd) ∨
      (∃ h, op = .take h ∧ (step s op).2 = .fd (some d)) := by
  cases op with
  | userOpen f => simp [step, userOpen, kInstall]
  | userClose r =>
    simp only [step, (userClose_frame s r).2]
    simp
  | wrap r =>
    simp only [step, (wrap_frame s r).2]
    simp
  | take h =>
    simp only [step, (take_frame s h).2]
    simp
  | newBody => simp [step, newBody]
  | push b items => simp [step, (spares_push s b items).1.user]
  | reset b => simp [step, (spares_reset s b).1.user]
  | dropBody b => simp [step, (spares_dropBody s b).1.user]
  | send b => simp [step, (send_frame s b).2]
  | peerSend files idx v => simp [step, peerSend]
  | receive => simp [step, receive_user]
  | unmarshalFd b j => simp [step, (same_unmarshalFd s b j).user]
  | get h => simp [step, (same_get s h).user]
  | dupHandle h => simp [step, (same_dupHandle s h).user]
  | dupHandleFail h => simp [step, dupHandleFail_state]
  | cloneHandle h => simp [step, (same_cloneHandle s h).user]
  | dropHandle h => simp [step, (same_dropHandle s h).user]

/-- what is still in the socket are the messages put in and not yet taken out, in order; the `k`-th message
    taken out carried (up to the limit of the receive buffer) the files of the `k`-th message put in -/
structure Fifo (s : State) : Prop where
  wire : s.wire.map (·.files) = s.enq.drop s.deq.length
  deq : s.deq = (s.enq.take s.deq.length).map (·.take maxRecvFds)

theorem fifo_init : Fifo State.init := ⟨rfl, rfl⟩

theorem Fifo.socket {s s' : State} (h : Fifo s) (hw : s'.wire = s.wire) (he : s'.enq = s.enq)
    (hd : s'.deq = s.deq) : Fifo s' :=
  ⟨by rw [hw, he, hd]; exact h.wire, by rw [he, hd]; exact h.deq⟩

theorem Fifo.same {s s' : State} (h : Fifo s) (hs : Same s s') : Fifo s' :=
  h.socket hs.wire hs.enq hs.deq

theorem Fifo.deq_le_enq {s : State} (h : Fifo s) : s.deq.length ≤ s.enq.length := by
  have := congrArg List.length h.deq
  simp only [List.length_map, List.length_take] at this
  omega

theorem Fifo.enqueue {s s' : State} (h : Fifo s) (m : Flight) (hw : s'.wire = s.wire ++ [m])
    (he : s'.enq = s.enq ++ [m.files]) (hd : s'.deq = s.deq) : Fifo s' := by
  have hle := h.deq_le_enq
  constructor
  · rw [hw, he, hd, List.map_append, h.wire, List.drop_append_of_le_length hle]; rfl
  · rw [he, hd, List.take_append_of_le_length hle]; exact h.deq

theorem Fifo.dequeue {s s' : State} (h : Fifo s) {m : Flight} {rest : List Flight} (hw0 : s.wire = m :: rest)
    (hs : Same { s with wire := rest, deq := s.deq ++ [m.files.take maxRecvFds] } s') : Fifo s' := by
  have h1 := h.wire
  have hlt : s.deq.length < s.enq.length := Nat.lt_of_not_le fun h' => by
    rw [hw0, List.drop_eq_nil_of_le h'] at h1; cases h1
  rw [hw0, List.drop_eq_getElem_cons hlt] at h1
  obtain ⟨e1, e2⟩ := List.cons.inj h1
  constructor
  · rw [hs.wire, hs.enq, hs.deq]
    simpa using e2
  · rw [hs.enq, hs.deq]
    simp only [List.length_append, List.length_singleton, List.take_succ_eq_append_getElem hlt, List.map_append,
      List.map_cons, List.map_nil, ← e1, ← h.deq]

theorem fifo_receive {s : State} (h : Fifo s) : Fifo (receive s).1 := by
  unfold receive
  split
  · exact h
  · next m rest hw =>
    split
    · exact h.dequeue hw ((same_installAll _ _).trans ⟨rfl, rfl, rfl, rfl⟩)
    · exact h.dequeue hw ((same_installAll _ _).trans (same_dropRefs _ _))

theorem fifo_send {s : State} (h : Fifo s) (b : Nat) : Fifo (send s b).1 := by
  unfold send
  split
  · exact h
  · split
    · exact h
    · split
      · exact h
      · next fl _ => exact h.enqueue ⟨fl, _, _, true⟩ rfl rfl rfl

theorem fifo_step {s : State} (h : Fifo s) (op : Op) : Fifo (step s op).1 := by
  cases op with
  | userOpen f => exact h.socket rfl rfl rfl
  | userClose r => obtain ⟨a, b, c⟩ := (userClose_frame s r).1; exact h.socket a b c
  | wrap r => obtain ⟨a, b, c⟩ := (wrap_frame s r).1; exact h.socket a b c
  | newBody => exact h.socket rfl rfl rfl
  | push b items => exact h.same (spares_push s b items).1
  | reset b => exact h.same (spares_reset s b).1
  | dropBody b => exact h.same (spares_dropBody s b).1
  | send b => exact fifo_send h b
  | peerSend files idx v => exact h.enqueue ⟨files, files.length, idx, v⟩ rfl rfl rfl
  | receive => exact fifo_receive h
  | unmarshalFd b j => exact h.same (same_unmarshalFd s b j)
  | take hd => obtain ⟨a, b, c⟩ := (take_frame s hd).1; exact h.socket a b c
  | get hd => exact h.same (same_get s hd)
  | dupHandle hd => exact h.same (same_dupHandle s hd)
  | dupHandleFail hd => simp only [step, dupHandleFail_state]; exact h
  | cloneHandle hd => exact h.same (same_cloneHandle s hd)
  | dropHandle hd => exact h.same (same_dropHandle s hd)

theorem fifo_run : ∀ (ops : List Op) {s : State}, Fifo s → Fifo (run s ops)
  | [], _, h => h
  | op :: ops, _, h => fifo_run ops (fifo_step h op)

/-- whatever was created between `s` and `s'` has been closed again, and nothing else was -/
theorem open_same_of_holders_same {s s' : State} (hs : Inv s) (hs' : Inv s')
    (hh : s'.handles = s.handles) (hb : s'.bodies = s.bodies) (hu : s'.user = s.user)
    (hc : ∀ (c : Nat) (x : Cell), s.cells[c]? = some x → s'.cells[c]? = some x) :
    ∀ d, d ∈ keys s'.open ↔ d ∈ keys s.open := by
  intro d
  constructor
  · intro hd
    rcases hs'.noLeak d hd with hu' | ⟨c, x, hx, hrefs, htk, hfd⟩
    · rw [hu] at hu'; exact hs.userOpen d hu'
    · have hr := refCount_pos_of_owns hs' ⟨x, hx, hrefs, htk, hfd⟩
      simp only [refCount, hb, hh] at hr
      obtain ⟨x0, hx0, _⟩ := live_cell hs hr
      cases (hc c x0 hx0).symm.trans hx
      exact (hs.ownOpen c d ⟨_, hx0, hrefs, htk, hfd⟩).1
  · intro hd
    rcases hs.noLeak d hd with hu' | ⟨c, x, hx, hrefs, htk, hfd⟩
    · exact hs'.userOpen d (by rw [hu]; exact hu')
    · exact (hs'.ownOpen c d ⟨x, hc c x hx, hrefs, htk, hfd⟩).1

/-- the common part of both rollbacks (failed push, refused message): the cells made since `s` are dropped again -/
theorem dropRefs_restores {s s1 : State} {cs : List Nat} (hs : Inv s) (hinv : Inv (dropRefs s1 cs))
    (hh : s1.handles = s.handles) (hb : s1.bodies = s.bodies) (hu : s1.user = s.user)
    (hc : ∀ (c : Nat) (x : Cell), s.cells[c]? = some x → s1.cells[c]? = some x)
    (hfresh : ∀ c, c ∈ cs → s.cells.length ≤ c) :
    (dropRefs s1 cs).bodies = s.bodies ∧ (dropRefs s1 cs).handles = s.handles ∧
    (∀ d, d ∈ keys (dropRefs s1 cs).open ↔ d ∈ keys s.open) ∧
    (∀ (c : Nat) (x : Cell), s.cells[c]? = some x → (dropRefs s1 cs).cells[c]? = some x) := by
  obtain ⟨_, _, _, _, hd, _⟩ := dropRefs_eq cs s1
  have hb' : (dropRefs s1 cs).bodies = s.bodies := by rw [hd]; exact hb
  have hh' : (dropRefs s1 cs).handles = s.handles := by rw [hd]; exact hh
  have hc' (c : Nat) (x : Cell) (hx : s.cells[c]? = some x) : (dropRefs s1 cs).cells[c]? = some x :=
    dropRefs_other (hc c x hx) fun hm => Nat.lt_irrefl _ (Nat.lt_of_lt_of_le (lt_length_of_getElem? hx) (hfresh c hm))
  exact ⟨hb', hh', open_same_of_holders_same hs hinv hh' hb' (by rw [hd]; exact hu) hc', hc'⟩

theorem push_err_restores {s : State} (hs : Inv s) (b : Nat) (items : List Item)
    (hr : (push s b items).2 = .err) :
    (push s b items).1.bodies = s.bodies ∧ (push s b items).1.handles = s.handles ∧
    (push s b items).1.raws = s.raws ∧ (push s b items).1.user = s.user ∧
    (push s b items).1.takenFds = s.takenFds ∧
    (∀ d, d ∈ keys (push s b items).1.open ↔ d ∈ keys s.open) ∧
    (∀ (c : Nat) (x : Cell), s.cells[c]? = some x → (push s b items).1.cells[c]? = some x) := by
  have hinv := inv_push hs b items
  rcases push_cases s b items with e | ⟨bd, news, hb, hext, ⟨_, e⟩ | e⟩ <;> rw [e] at hr hinv ⊢
  · cases hr
  · cases hr
  · generalize (pushLoop s b items).1 = s1 at *
    have hbs : s1.bodies.set b bd = s.bodies := List.ext_getElem? fun k => by
      by_cases e : k = b
      · rw [e, List.getElem?_set_self (hext.blen ▸ lt_length_of_getElem? hb), hb]
      · rw [List.getElem?_set_ne (Ne.symm e), hext.others k e]
    obtain ⟨_, _, _, _, hd, _⟩ := dropRefs_eq news { s1 with bodies := s1.bodies.set b bd }
    obtain ⟨h1, h2, h3, h4⟩ := dropRefs_restores hs hinv hext.handles hbs hext.user hext.cells
      fun c hm => (hext.newCells c hm).1
    exact ⟨h1, h2, by rw [hd]; exact hext.raws, by rw [hd]; exact hext.user, by rw [hd]; exact hext.takenFds, h3, h4⟩

end Rustbus.FdTable
