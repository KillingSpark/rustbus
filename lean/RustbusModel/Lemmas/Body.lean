import RustbusModel.Model.BodyRollback
import RustbusModel.Lemmas.Marshal
import RustbusModel.Lemmas.Wire
import RustbusModel.Lemmas.SigIter
/-!
C15, the body builder / parser model. Builder: every push only `Extends` the body, and what a plain value appends is
its `enc`. Parser: `get` succeeds exactly when the next piece of the signature is the type's and the decoder accepts
(`get_ok_iff`); the multi-value statements are inductions over that, with the parser's position given as a window of
the bytes (`HasAt`) and a suffix of the signature (`drop`).
-/
namespace Rustbus.Body
open Rustbus.Bytes Rustbus.Wire Rustbus.Marshal Rustbus.Spec.Wire

/- The multi-value statements speak of a list `ps` of pairs (type, value): the types asked of the parser, the values it
   returns, and the pushes that built the body (one `push_param` each). -/
def itemsTypes : List (Ty × Val) → List Ty := List.map Prod.fst
def itemsVals : List (Ty × Val) → List Val := List.map Prod.snd
def plainItems (ps : List (Ty × Val)) : List Item := ps.map (fun p => Item.plain p.1 p.2)

theorem itemsTypes_cons (q : Ty × Val) (ps : List (Ty × Val)) : itemsTypes (q :: ps) = q.1 :: itemsTypes ps := rfl
theorem itemsVals_cons (q : Ty × Val) (ps : List (Ty × Val)) : itemsVals (q :: ps) = q.2 :: itemsVals ps := rfl
theorem plainItems_cons (q : Ty × Val) (ps : List (Ty × Val)) :
    plainItems (q :: ps) = .plain q.1 q.2 :: plainItems ps := rfl

theorem Extends.refl (b : Body) : Extends b b :=
  ⟨rfl, ⟨[], (List.append_nil _).symm⟩, ⟨[], (List.append_nil _).symm⟩, Nat.le_refl _⟩

theorem Extends.trans {a b c : Body} (h1 : Extends a b) (h2 : Extends b c) : Extends a c := by
  obtain ⟨e1, ⟨x1, hx1⟩, ⟨y1, hy1⟩, n1⟩ := h1
  obtain ⟨e2, ⟨x2, hx2⟩, ⟨y2, hy2⟩, n2⟩ := h2
  exact ⟨e2.trans e1, ⟨x1 ++ x2, by rw [hx2, hx1, List.append_assoc]⟩,
    ⟨y1 ++ y2, by rw [hy2, hy1, List.append_assoc]⟩, Nat.le_trans n1 n2⟩

theorem pushItem_plain (b : Body) (t : Ty) (v : Val) :
    pushItem b (.plain t v) =
      (enc b.bo b.buf.length t v).map fun bs => { b with buf := b.buf ++ bs, sig := b.sig ++ t.toStr } := by
  simp only [pushItem, marshalM_eq_enc]
  cases enc b.bo b.buf.length t v <;> rfl

/-- `push_variant(p)` is `push_param` of the variant holding `p` -/
theorem pushItem_asVariant (b : Body) (t : Ty) (v : Val) :
    pushItem b (.asVariant t v) = pushItem b (.plain .variant (.variant t v)) := rfl

theorem pushItem_extends {b b' : Body} {it : Item} (h : pushItem b it = some b') : Extends b b' := by
  have plain : ∀ t v, pushItem b (.plain t v) = some b' → Extends b b' := by
    intro t v h
    rw [pushItem_plain, Option.map_eq_some_iff] at h
    obtain ⟨bs, -, rfl⟩ := h
    exact ⟨rfl, ⟨bs, rfl⟩, ⟨_, rfl⟩, Nat.le_refl _⟩
  cases it with
  | plain t v => exact plain t v h
  | asVariant t v => exact plain _ _ (pushItem_asVariant b t v ▸ h)
  | fd valid =>
    cases valid with
    | false => cases h
    | true =>
      cases h
      exact ⟨rfl, ⟨_, List.append_assoc ..⟩, ⟨_, rfl⟩, Nat.le_succ _⟩

theorem pushAll_extends {b b' : Body} {items : List Item} (h : pushAll b items = some b') : Extends b b' := by
  induction items generalizing b with
  | nil => cases h; exact .refl _
  | cons it its ih =>
    simp only [pushAll] at h
    split at h
    · rename_i b1 hp
      exact (pushItem_extends hp).trans (ih h)
    · cases h

theorem pushAll_append (b : Body) (xs ys : List Item) :
    pushAll b (xs ++ ys) = (pushAll b xs).bind (fun b' => pushAll b' ys) := by
  induction xs generalizing b with
  | nil => rfl
  | cons x xs ih =>
    simp only [List.cons_append, pushAll]
    cases pushItem b x with
    | none => rfl
    | some b1 => exact ih b1

theorem pushDirty_spec (j : Junk) (items : List Item) (b : Body) :
    match pushAll b items with
    | some b' => pushDirty b j items = (b', true)
    | none => ∃ d, pushDirty b j items = (d, false) ∧ Extends b d := by
  induction items generalizing b with
  | nil => rfl
  | cons it its ih =>
    simp only [pushAll, pushDirty]
    cases hp : pushItem b it with
    | none => exact ⟨_, rfl, rfl, ⟨_, rfl⟩, ⟨_, rfl⟩, Nat.le_add_right _ _⟩
    | some b1 =>
      have := ih b1
      simp only
      split
      · rename_i b' h'
        rwa [h'] at this
      · rename_i h'
        rw [h'] at this
        obtain ⟨d, hd, he⟩ := this
        exact ⟨d, hd, (pushItem_extends hp).trans he⟩

theorem step_bo (b : Body) (op : Op) : (step b op).bo = b.bo := by
  cases op with
  | reset => rfl
  | push items =>
    simp only [step, push]
    split
    · rename_i hp
      exact (pushAll_extends hp).1
    · rfl

/-- `body_is_replay` generalised for the induction: from any body that is the replay of some `acc` -/
theorem replay_from (bo : ByteOrder) (ops : List Op) (b : Body) (acc : List Item)
    (h : pushAll (Body.empty bo) acc = some b) :
    pushAll (Body.empty bo) (effective b acc ops) = some (run b ops) := by
  induction ops generalizing b acc with
  | nil => exact h
  | cons op ops ih =>
    cases op with
    | reset =>
      have hbo : b.bo = bo := (pushAll_extends h).1
      simp only [effective, run, List.foldl_cons, step, hbo]
      exact ih _ [] rfl
    | push items =>
      simp only [effective, run, List.foldl_cons, step, push]
      cases hp : pushAll b items with
      | none => exact ih b acc h
      | some b' => exact ih b' (acc ++ items) (by rw [pushAll_append, h]; exact hp)

theorem pushAll_plain (ps : List (Ty × Val)) (b : Body) :
    pushAll b (plainItems ps) =
      (encFields b.bo b.buf.length (itemsTypes ps) (itemsVals ps)).map fun bs =>
        { b with buf := b.buf ++ bs, sig := b.sig ++ Ty.listToStr (itemsTypes ps) } := by
  induction ps generalizing b with
  | nil => simp [plainItems, itemsTypes, itemsVals, pushAll, encFields, Ty.listToStr]
  | cons q ps ih =>
    simp only [plainItems_cons, itemsTypes_cons, itemsVals_cons, pushAll, pushItem_plain, encFields, Ty.listToStr]
    cases enc b.bo b.buf.length q.1 q.2 with
    | none => rfl
    | some x =>
      simp only [Option.map_some, ih, List.length_append]
      cases encFields b.bo (b.buf.length + x.length) (itemsTypes ps) (itemsVals ps) with
      | none => rfl
      | some bs => simp only [Option.map_some, List.append_assoc]

theorem pushAll_plain_eq {bo : ByteOrder} {ps : List (Ty × Val)} {b : Body} :
    pushAll (Body.empty bo) (plainItems ps) = some b ↔
      (encFields bo 0 (itemsTypes ps) (itemsVals ps) = some b.buf ∧ b.sig = Ty.listToStr (itemsTypes ps) ∧
       b.nfds = 0 ∧ b.bo = bo) := by
  rw [pushAll_plain, Option.map_eq_some_iff]
  simp only [Body.empty, List.length_nil, List.nil_append]
  constructor
  · rintro ⟨bs, h, rfl⟩
    exact ⟨h, rfl, rfl, rfl⟩
  · rintro ⟨h1, h2, h3, h4⟩
    cases b
    exact ⟨_, h1, by simp_all⟩

theorem nextSig_at {b : Body} {p : Parser} {t : Ty} {rest : List Char}
    (h : b.sig.drop p.sigIdx = t.toStr ++ rest) : nextSig b p = some t.toStr := by
  obtain ⟨c, tl, hc, -⟩ := Sig.toStr_start t
  have hlt : ¬ (p.sigIdx ≥ b.sig.length) := fun hge => by
    rw [List.drop_eq_nil_of_le hge, hc] at h; cases h
  unfold nextSig
  simp only [if_neg hlt, h, Sig.iterNext_ty]
  rw [hc]
  rfl

theorem get_ok_iff {b : Body} {p p' : Parser} {t : Ty} {v : Val} :
    get b p t = .ok (v, p') ↔
      nextSig b p = some t.toStr ∧ p'.sigIdx = p.sigIdx + t.toStr.length ∧
      dec b.bo b.buf (some b.nfds) maxDepth t p.bufIdx b.buf.length = some (v, p'.bufIdx) := by
  obtain ⟨o', i'⟩ := p'
  unfold get
  cases nextSig b p with
  | none => simp
  | some s =>
    by_cases hs : s = t.toStr
    · subst hs
      cases dec b.bo b.buf (some b.nfds) maxDepth t p.bufIdx b.buf.length with
      | none => simp
      | some r =>
        obtain ⟨v', o''⟩ := r
        simp only [ne_eq, not_true_eq_false, if_false, Except.ok.injEq, Prod.mk.injEq, Parser.mk.injEq,
          Option.some.injEq, true_and]
        constructor <;> (rintro ⟨rfl, rfl, rfl⟩; exact ⟨rfl, rfl, rfl⟩)
    · simp [hs]

theorem get_enc {b : Body} {p : Parser} {t : Ty} {v : Val} {x : List UInt8} {rest : List Char}
    (hx : enc b.bo p.bufIdx t v = some x) (hbuf : HasAt b.buf p.bufIdx x)
    (hsig : b.sig.drop p.sigIdx = t.toStr ++ rest)
    (hd : depthOf t v ≤ maxDepth) (hfd : fdsBelow b.nfds t v = true) :
    get b p t = .ok (v, ⟨p.bufIdx + x.length, p.sigIdx + t.toStr.length⟩) :=
  get_ok_iff.2 ⟨nextSig_at hsig, rfl,
    dec_iff.2 ⟨x, hx, hbuf, rfl, hbuf.1, Nat.le_refl _, hd, fun _ hc => Option.some.inj hc ▸ hfd⟩⟩

theorem getAll_cons {b : Body} {p p' : Parser} {t : Ty} {ts : List Ty} {v : Val} (h : get b p t = .ok (v, p')) :
    getAll b p (t :: ts) = (getAll b p' ts).map fun r => (v :: r.1, r.2) := by
  simp only [getAll, h]
  cases getAll b p' ts <;> rfl

theorem getAll_enc {b : Body} {ps : List (Ty × Val)} {p : Parser} {bs : List UInt8} {rest : List Char}
    (h : encFields b.bo p.bufIdx (itemsTypes ps) (itemsVals ps) = some bs) (hbuf : HasAt b.buf p.bufIdx bs)
    (hsig : b.sig.drop p.sigIdx = Ty.listToStr (itemsTypes ps) ++ rest)
    (hall : ∀ q ∈ ps, depthOf q.1 q.2 ≤ maxDepth ∧ fdsBelow b.nfds q.1 q.2 = true) :
    getAll b p (itemsTypes ps) =
      .ok (itemsVals ps, ⟨p.bufIdx + bs.length, p.sigIdx + (Ty.listToStr (itemsTypes ps)).length⟩) := by
  induction ps generalizing p bs with
  | nil => cases h; rfl
  | cons q ps ih =>
    obtain ⟨x, bs', hx, hr, rfl⟩ := encFields_cons_some (t := q.1) (v := q.2) h
    obtain ⟨h1, h2⟩ := hasAt_append.1 hbuf
    obtain ⟨hd, hfd⟩ := hall q List.mem_cons_self
    rw [itemsTypes_cons, Ty.listToStr, List.append_assoc] at hsig
    rw [itemsTypes_cons, getAll_cons (get_enc hx h1 hsig hd hfd),
      ih (p := ⟨_, _⟩) hr h2 (Sig.drop_add_of_append hsig) fun q hq => hall q (List.mem_cons_of_mem _ hq)]
    simp only [Except.map, itemsVals_cons, Ty.listToStr, List.length_append, Nat.add_assoc]

theorem parser_roundtrip (bo : ByteOrder) (ps : List (Ty × Val)) (b : Body)
    (hb : pushAll (Body.empty bo) (plainItems ps) = some b)
    (hd : ∀ p ∈ ps, depthOf p.1 p.2 ≤ maxDepth ∧ fdsBelow 0 p.1 p.2 = true) :
    getAll b ⟨0, 0⟩ (itemsTypes ps) = .ok (itemsVals ps, ⟨b.buf.length, b.sig.length⟩) := by
  obtain ⟨h1, h2, h3, h4⟩ := pushAll_plain_eq.mp hb
  have := getAll_enc (b := b) (p := ⟨0, 0⟩) (rest := []) (h4 ▸ h1) ⟨Nat.le_of_eq (Nat.zero_add _), List.take_length⟩
    (by rw [h2, List.append_nil]; rfl) (h3 ▸ hd)
  simpa only [Nat.zero_add, ← h2] using this

theorem getAll_ok_advances {b : Body} {ts : List Ty} {p p' : Parser} {vs : List Val} (h : getAll b p ts = .ok (vs, p')) :
    vs.length = ts.length ∧ p'.sigIdx = p.sigIdx + (ts.map (fun t => t.toStr.length)).sum ∧
    p.bufIdx ≤ p'.bufIdx ∧ (ts ≠ [] → p.bufIdx < p'.bufIdx) := by
  induction ts generalizing p vs with
  | nil =>
    cases h
    exact ⟨rfl, rfl, Nat.le_refl _, fun h => absurd rfl h⟩
  | cons t ts ih =>
    cases hg : get b p t with
    | error e => simp only [getAll, hg] at h; cases h
    | ok r =>
      obtain ⟨v, p1⟩ := r
      rw [getAll_cons hg] at h
      cases ha : getAll b p1 ts with
      | error e => rw [ha] at h; cases h
      | ok r2 =>
        rw [ha] at h
        cases h
        obtain ⟨-, h1, hd⟩ := get_ok_iff.1 hg
        have h2 := (dec_bounds hd).1
        obtain ⟨i1, i2, i3, -⟩ := ih ha
        refine ⟨congrArg (· + 1) i1, ?_, Nat.le_trans (Nat.le_of_lt h2) i3, fun _ => Nat.lt_of_lt_of_le h2 i3⟩
        rw [i2, h1, List.map_cons, List.sum_cons, Nat.add_assoc]

theorem get_wrongSignature {b : Body} {p : Parser} {s : List Char} {t : Ty}
    (hn : nextSig b p = some s) (hne : s ≠ t.toStr) : get b p t = .error .wrongSignature := by
  unfold get
  rw [hn]
  exact if_pos hne

end Rustbus.Body

#print axioms Rustbus.Body.pushAll_plain_eq
#print axioms Rustbus.Body.parser_roundtrip
