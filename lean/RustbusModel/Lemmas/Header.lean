import RustbusModel.Lemmas.HeaderFixed
import RustbusModel.Lemmas.HeaderField
import RustbusModel.Lemmas.HeaderMarshal
import RustbusModel.Lemmas.HeaderNames
/-!
Headers against the specification. Receive side: the whole header (`decodeHeader_iff`) and the message behind it.
Send side: what the marshaller writes (`rawList`) is the `a(yv)` encoding of the message's entries (`encList_simple`,
`marshalHeader_spec`). Then the round trip `marshal_decode`.
-/
namespace Rustbus.Header
open Rustbus.Bytes Rustbus.Wire Rustbus.Spec.Header

/-- `hlt` asks only that the field array's length fits its 32-bit word: `decodeHeader` does not apply the 64 MiB
    array limit to it (the receive loop does; see `decodeHeader_iff`) -/
theorem decodeHeader_build {buf : List UInt8} {fx : Fixed} {fs : List Field} {es : List Entry} {body : List UInt8}
    (hfx : fixedOk fx) (henc : encList fx.bo 16 elemTy (es.map entryVal) = some body)
    (hlt : body.length < 256 ^ 4) (hef : entriesFields es = some fs) (hok : fieldsOk fx.typ fs = true)
    (hw : HasAt buf 0 (fixedBytes fx ++ (bytesOf fx.bo 4 body.length ++ body))) :
    decodeHeader buf = some (fx, fs, 16 + body.length) := by
  obtain ⟨⟨hl1, hs1⟩, hw2⟩ := hasAt_append.1 hw
  obtain ⟨hw2, hw3⟩ := hasAt_append.1 hw2
  simp only [fixedBytes_length, bytesOf_length, Nat.zero_add] at hl1 hs1 hw2 hw3
  have hl := hw3.1
  exact decodeHeader_eq_some.2 ⟨_, decodeFixed_iff.2 ⟨hl1, hfx, hs1⟩,
    readNum_iff.2 ⟨by omega, Nat.le_refl _, hlt, hw2⟩, by omega, decodeFields_complete henc hw3 hef (Nat.le_refl _),
    hok, rfl⟩

/-- `used - 16 ≤ maxArrayLen`: the 64 MiB array limit on the field array, which the
    decoder leaves to the receive loop and the specification demands -/
theorem decodeHeader_iff {buf : List UInt8} {fx : Fixed} {fs : List Field} {used : Nat} :
    (decodeHeader buf = some (fx, fs, used) ∧ used - 16 ≤ maxArrayLen) ↔ ValidHeader buf fx fs used := by
  constructor
  · rintro ⟨h, hmax⟩
    obtain ⟨len, hfx, hn, hle, hfs, hok, rfl⟩ := decodeHeader_eq_some.1 h
    obtain ⟨_, hfok, hfb⟩ := decodeFixed_iff.1 hfx
    obtain ⟨-, -, -, hw4⟩ := readNum_iff.1 hn
    obtain ⟨es, body, hes, hwb, hlen, hef⟩ := decodeFields_sound hle hfs
    cases Nat.add_left_cancel hlen
    rw [Nat.add_sub_cancel_left] at hmax
    refine ⟨hfok, Nat.le_add_right .., hle, hfb, es, enc_fieldArray.2 ⟨body, hes, hmax, ?_⟩, hef, hok⟩
    have hw := hasAt_append.2 ⟨hw4, by rwa [bytesOf_length]⟩
    rw [← hw.2, List.length_append, bytesOf_length, Nat.sub_add_comm (by decide : 12 ≤ 16)]
  · rintro ⟨hfok, h16, hub, hfb, es, henc, hef, hok⟩
    obtain ⟨body, hbody, hmax, harr⟩ := enc_fieldArray.1 henc
    have e12 : 12 + (used - 12) = used := Nat.add_sub_cancel' (Nat.le_trans (by decide) h16)
    have h12 : 12 + (used - 12) ≤ buf.length := Nat.le_trans (Nat.le_of_eq e12) hub
    have hused : used = 16 + body.length := by
      have := congrArg List.length harr
      rw [slice_length _ _ _ h12, List.length_append, bytesOf_length] at this
      rw [← e12, this, ← Nat.add_assoc]
    have hw : HasAt buf 0 (fixedBytes fx ++ (bytesOf fx.bo 4 body.length ++ body)) := by
      refine hasAt_append.2 ⟨⟨?_, by rw [fixedBytes_length]; exact hfb⟩, ?_⟩
      · rw [fixedBytes_length]
        exact Nat.le_trans (Nat.le_trans (by decide) h16) hub
      · rw [fixedBytes_length, Nat.zero_add, ← harr]
        exact hasAt_slice h12
    exact ⟨hused ▸ decodeHeader_build hfok hbody (Nat.lt_of_le_of_lt hmax maxArrayLen_lt) hef hok hw,
      by rwa [hused, Nat.add_sub_cancel_left]⟩

theorem decodeMessage_build {fx : Fixed} {fs : List Field} {es : List Entry} {arr body : List UInt8}
    (hfx : fixedOk fx) (henc : encList fx.bo 16 elemTy (es.map entryVal) = some arr)
    (hlt : arr.length < 256 ^ 4) (hef : entriesFields es = some fs) (hok : fieldsOk fx.typ fs = true)
    (hb : body.length = fx.bodyLen) :
    decodeMessage (padTo 8 (fixedBytes fx ++ (bytesOf fx.bo 4 arr.length ++ arr)) ++ body) =
      some (fx, fs, body) := by
  generalize hhdr : fixedBytes fx ++ (bytesOf fx.bo 4 arr.length ++ arr) = hdr
  have hlen : hdr.length = 16 + arr.length := by
    rw [← hhdr, List.length_append, List.length_append, fixedBytes_length, bytesOf_length, ← Nat.add_assoc]
  rw [padTo, hlen, List.append_assoc]
  have hw : HasAt _ 0 hdr := hasAt_mid [] hdr (zeros (padLen 8 (16 + arr.length)) ++ body)
  have hwz := hasAt_mid hdr (zeros (padLen 8 (16 + arr.length))) body
  rw [hlen] at hwz
  refine decodeMessage_eq_some.2 ⟨_, _, decodeHeader_build hfx henc hlt hef hok (hhdr ▸ hw),
    skipPad_iff.2 ⟨rfl, ?_, Nat.le_refl _, hwz⟩, ?_⟩
  · have := hwz.1; rwa [zeros_length] at this
  · by_cases hz : fx.bodyLen = 0
    · exact .inl ⟨hz, List.eq_nil_of_length_eq_zero (hb.trans hz)⟩
    · refine .inr ⟨hz, ?_, ?_⟩
      · rw [List.length_append, List.length_append, zeros_length, hlen, ← Nat.add_assoc, Nat.add_sub_cancel_left, hb]
      · rw [← List.append_assoc]
        exact (List.drop_left' (by rw [List.length_append, zeros_length, hlen])).symm

theorem enc_entryVal (bo : ByteOrder) (off c : Nat) (t : Ty) (v : Val) (bs : List UInt8) :
    enc bo off elemTy (entryVal (c, t, v)) = some bs ↔
      c < 256 ∧ variantTypeOk t = true ∧
      ∃ body, enc bo (off + padLen 8 off + 1 + (sigBytes t).length + 2) t v = some body ∧
        bs = zeros (padLen 8 off) ++
          (UInt8.ofNat c :: UInt8.ofNat (sigBytes t).length :: (sigBytes t ++ 0 :: body)) := by
  simp only [entryVal, enc, List.isEmpty_cons, Bool.false_eq_true, if_false, encFields, encBase,
    Base.fixedSize, Base.bound, Base.align, padLen_one]
  by_cases hc : c < 256
  · by_cases ht : variantTypeOk t = true
    · simp only [hc, ht, if_true, true_and, Nat.pow_one]
      have e1 : (zeros 0 ++ bytesOf bo 1 c).length = 1 := by simp
      rw [e1, bytesOf_one bo c hc]
      cases enc bo (off + padLen 8 off + 1 + (sigBytes t).length + 2) t v with
      | none => simp
      | some body => simp [zeros, eq_comm]
    · simp [hc, ht]
  · simp [hc]

theorem enc_entryVal_base (bo : ByteOrder) (off c : Nat) (b : Base) (v : Val) (bs : List UInt8) :
    enc bo off elemTy (entryVal (c, .base b, v)) = some bs ↔
      c < 256 ∧ ∃ body, encBase bo (off + padLen 8 off + 1 + 1 + 2) b v = some body ∧
        bs = fieldHead off c (UInt8.ofNat b.char.toNat) ++ body := by
  simp [enc_entryVal, variantTypeOk_base, sigBytes_base, enc, fieldHead]

/-- an entry, of any code, whose value is a `u32`, string, object path or signature: the four kinds `marshal`
    writes (`msgEntries_simple`) and `rawEntry` has a closed form for -/
inductive Simple : Entry → Prop
  | u32 (c n : Nat) : Simple (c, .base .u32, .num n)
  | str (c : Nat) (s : List UInt8) : Simple (c, .base .string, .str s)
  | path (c : Nat) (s : List UInt8) : Simple (c, .base .objpath, .str s)
  | sig (c : Nat) (s : List UInt8) : Simple (c, .base .signature, .str s)

/-- the content rules of such an entry; the lengths of its strings are left to the size of the whole -/
def encOk : Entry → Prop
  | (c, .base .u32, .num n) => c < 256 ∧ n < 256 ^ 4
  | (c, .base .string, .str s) => c < 256 ∧ strOk .string s = true
  | (c, .base .objpath, .str s) => c < 256 ∧ strOk .objpath s = true
  | (c, .base .signature, .str s) => c < 256 ∧ strOk .signature s = true
  | _ => False

/-- `hsz`: bytes that fit a 32-bit length word as a whole, so every string among them fits its own
    (which is what `enc` asks of each string) -/
theorem enc_simple {bo : ByteOrder} {off : Nat} {e : Entry} {bs : List UInt8} (h : Simple e)
    (hsz : bs.length < 256 ^ 4) :
    enc bo off elemTy (entryVal e) = some bs ↔ encOk e ∧ bs = rawEntry bo off e := by
  cases h <;>
    simp [enc_entryVal_base, encBase_fixed (show Base.u32.fixedSize = some 4 from rfl), encBase_str, encBase_sig,
      Base.char, Base.align, Base.bound, Base.fixedSize, padLen4_after, encOk, rawEntry, zeros, and_assoc]
  all_goals
    rintro - - rfl
    simp only [List.length_append] at hsz
    exact Nat.lt_of_le_of_lt
      (Nat.le_trans (Nat.le_add_right ..) (Nat.le_trans (Nat.le_add_left ..) (Nat.le_add_left ..))) hsz

theorem encList_simple {bo : ByteOrder} {es : List Entry} {off : Nat} {body : List UInt8}
    (h : ∀ e ∈ es, Simple e) (hsz : body.length < 256 ^ 4) :
    encList bo off elemTy (es.map entryVal) = some body ↔
      (∀ e ∈ es, encOk e) ∧ body = rawList bo off es := by
  induction es generalizing off body with
  | nil => simp [encList, rawList, eq_comm]
  | cons e es ih =>
    have he := h e (by simp)
    have hes : ∀ e ∈ es, Simple e := fun x hx => h x (by simp [hx])
    simp only [List.map_cons, List.mem_cons, forall_eq_or_imp, rawList]
    constructor
    · intro henc
      obtain ⟨b, r, hb, hr, rfl⟩ := encList_cons_some henc
      rw [List.length_append] at hsz
      obtain ⟨hok, rfl⟩ := (enc_simple he (Nat.lt_of_le_of_lt (Nat.le_add_right ..) hsz)).1 hb
      obtain ⟨hoks, rfl⟩ := (ih hes (Nat.lt_of_le_of_lt (Nat.le_add_left ..) hsz)).1 hr
      exact ⟨⟨hok, hoks⟩, rfl⟩
    · rintro ⟨⟨hok, hoks⟩, rfl⟩
      rw [List.length_append] at hsz
      simp only [encList, (enc_simple he (Nat.lt_of_le_of_lt (Nat.le_add_right ..) hsz)).2 ⟨hok, rfl⟩,
        (ih hes (Nat.lt_of_le_of_lt (Nat.le_add_left ..) hsz)).2 ⟨hoks, rfl⟩]

theorem msgEntries_simple (m : Msg) : ∀ e ∈ msgEntries m, Simple e :=
  forall_msgEntries.2 ⟨fun _ _ => .u32 .., fun _ _ => .str .., fun _ _ => .str .., fun _ _ => .str ..,
    fun _ _ => .str .., fun _ _ => .path .., fun _ _ => .str .., fun _ => .sig .., fun _ => .u32 ..⟩

theorem names_entryField {m : Msg} (hn : NamesOk m) :
    ∀ e ∈ msgEntries m, e.1 ≠ 5 → e.1 ≠ 9 → ∃ f, entryField e = some (some f) := by
  obtain ⟨n2, n6, n7, n3, -, n4, -⟩ := hn
  exact forall_msgEntries.2 ⟨fun _ _ h5 _ => absurd rfl h5,
    fun s hs _ _ => ⟨.interface s, entryField_eq_some.2 ⟨rfl, n2 s hs⟩⟩,
    fun s hs _ _ => ⟨.destination s, entryField_eq_some.2 ⟨rfl, n6 s hs⟩⟩,
    fun s hs _ _ => ⟨.sender s, entryField_eq_some.2 ⟨rfl, n7 s hs⟩⟩,
    fun s hs _ _ => ⟨.member s, entryField_eq_some.2 ⟨rfl, n3 s hs⟩⟩,
    fun s _ _ _ => ⟨.path s, entryField_eq_some.2 ⟨rfl, trivial⟩⟩,
    fun s hs _ _ => ⟨.errorName s, entryField_eq_some.2 ⟨rfl, n4 s hs⟩⟩,
    fun _ _ _ => ⟨.signature _, entryField_eq_some.2 ⟨rfl, trivial⟩⟩,
    fun _ _ h9 => absurd rfl h9⟩

theorem names_encOk {m : Msg} {serial : Nat} (hr : msgInRange m serial) (hn : NamesOk m) :
    ∀ e ∈ msgEntries m, encOk e := by
  obtain ⟨n2, n6, n7, n3, n1, n4, n8⟩ := hn
  obtain ⟨_, _, _, hfds, hrs⟩ := hr
  exact forall_msgEntries.2 ⟨fun n hs => ⟨by decide, hrs n hs⟩,
    fun s hs => ⟨by decide, nameOk_strOk (by decide) (n2 s hs)⟩,
    fun s hs => ⟨by decide, nameOk_strOk (by decide) (n6 s hs)⟩,
    fun s hs => ⟨by decide, nameOk_strOk (by decide) (n7 s hs)⟩,
    fun s hs => ⟨by decide, nameOk_strOk (by decide) (n3 s hs)⟩,
    fun s hs => ⟨by decide, n1 s hs⟩,
    fun s hs => ⟨by decide, nameOk_strOk (by decide) (n4 s hs)⟩,
    fun hb => ⟨by decide, n8 hb⟩,
    fun _ => ⟨by decide, hfds⟩⟩

theorem entryField_str {c : Nat} {s : List UInt8}
    (h : ∃ f, entryField (c, .base .string, .str s) = some (some f)) : nameOk c s = true := by
  obtain ⟨f, h⟩ := h
  obtain ⟨hf, hok⟩ := entryField_eq_some.1 h
  cases f <;> cases hf <;> exact hok

theorem encOk_names {m : Msg} (hok : ∀ e ∈ msgEntries m, encOk e)
    (hef : ∀ e ∈ msgEntries m, e.1 ≠ 5 → e.1 ≠ 9 → ∃ f, entryField e = some (some f)) : NamesOk m := by
  obtain ⟨-, -, -, -, -, o1, -, o8, -⟩ := forall_msgEntries.1 hok
  obtain ⟨-, e2, e6, e7, e3, -, e4, -, -⟩ := forall_msgEntries.1 hef
  exact ⟨fun s hs => entryField_str (e2 s hs (by simp) (by simp)),
    fun s hs => entryField_str (e6 s hs (by simp) (by simp)),
    fun s hs => entryField_str (e7 s hs (by simp) (by simp)),
    fun s hs => entryField_str (e3 s hs (by simp) (by simp)),
    fun s hs => (o1 s hs).2,
    fun s hs => entryField_str (e4 s hs (by simp) (by simp)),
    fun hb => (o8 hb).2⟩

theorem marshalHeader_spec {m : Msg} {serial : Nat} (hr : msgInRange m serial) {out : List UInt8} :
    marshalHeader m serial = some out ↔
      (1 ≤ m.typ ∧ m.typ ≤ 4 ∧
       ∃ arr, enc m.bo 12 fieldArrayTy (.arr ((msgEntries m).map entryVal)) = some arr ∧
         out = padTo 8 (fixedBytes ⟨m.bo, m.typ, m.flags, m.body.length, serial⟩ ++ arr) ∧
         out.length + m.body.length ≤ maxMessageLen ∧
         (∀ e ∈ msgEntries m, e.1 ≠ 5 → e.1 ≠ 9 → ∃ f, entryField e = some (some f))) := by
  rw [marshalHeader_eq_some]
  -- a field array within the 64 MiB array limit fits a length word, and so do the strings in it
  have hraw {body : List UInt8} (h : body.length ≤ maxArrayLen) :=
    encList_simple (bo := m.bo) (off := 16) (msgEntries_simple m) (Nat.lt_of_le_of_lt h maxArrayLen_lt)
  constructor
  · rintro ⟨h1, h4, hn, harr, hsz, rfl⟩
    exact ⟨h1, h4, _, enc_fieldArray.2 ⟨_, (hraw harr).2 ⟨names_encOk hr hn, rfl⟩, harr, rfl⟩, rfl, hsz,
      names_entryField hn⟩
  · rintro ⟨h1, h4, arr, harr, rfl, hsz, hef⟩
    obtain ⟨body, henc, hlim, rfl⟩ := enc_fieldArray.1 harr
    obtain ⟨hok, rfl⟩ := (hraw hlim).1 henc
    exact ⟨h1, h4, encOk_names hok hef, hlim, hsz, rfl⟩

/-- the part of `marshalHeader_spec` (→) that holds without `msgInRange` -/
theorem marshalHeader_fields_valid (m : Msg) (serial : Nat) (out : List UInt8)
    (h : marshalHeader m serial = some out) :
    1 ≤ m.typ ∧ m.typ ≤ 4 ∧ out.length + m.body.length ≤ maxMessageLen ∧
      (∀ e ∈ msgEntries m, e.1 ≠ 5 → e.1 ≠ 9 → ∃ f, entryField e = some (some f)) := by
  obtain ⟨h1, h4, hn, _, hsz, rfl⟩ := marshalHeader_eq_some.1 h
  exact ⟨h1, h4, hsz, names_entryField hn⟩

set_option linter.unusedVariables false in
/-- `hrs` is not used: `hf` already excludes a zero reply serial, for which `entryField` has no field -/
theorem marshal_decode (m : Msg) (serial : Nat) (hr : msgInRange m serial) (hs : 0 < serial)
    (hrs : m.replySerial ≠ some 0) (out : List UInt8)
    (h : marshalHeader m serial = some out) (fs : List Field)
    (hf : entriesFields (msgEntries m) = some fs) (hok : fieldsOk m.typ fs = true) :
    decodeMessage (out ++ m.body) = some (⟨m.bo, m.typ, m.flags, m.body.length, serial⟩, fs, m.body) := by
  obtain ⟨h1, h4, _, harr, rfl, -⟩ := (marshalHeader_spec hr).1 h
  obtain ⟨arr, henc, hmax, rfl⟩ := enc_fieldArray.1 harr
  obtain ⟨hfl, hser, hbl, -, -⟩ := hr
  exact decodeMessage_build ⟨h1, h4, hfl, hbl, hs, hser⟩ henc (Nat.lt_of_le_of_lt hmax maxArrayLen_lt) hf hok rfl

end Rustbus.Header

#print axioms Rustbus.Header.decodeHeader_iff
#print axioms Rustbus.Header.marshalHeader_fields_valid
#print axioms Rustbus.Header.marshalHeader_spec
#print axioms Rustbus.Header.marshal_decode
