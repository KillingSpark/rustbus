import RustbusModel.Lemmas.Send
/-!
C10, the loop of `write`: what it keeps, when it completes, when it spins.
-/
namespace Rustbus.Send

theorem allWritten_iff (m : Msg) (st : State) : allWritten m st = true ↔ st.bytesSent = m.total := by
  simp [allWritten]

theorem dropPanics_iff (m : Msg) (st : State) :
    dropPanics m st = true ↔ st.bytesSent ≠ 0 ∧ st.bytesSent ≠ m.total := by
  simp [dropPanics, allWritten]

theorem exitPanics_drop_iff {m : Msg} {st : State} (h : st.bytesSent ≤ m.total) :
    exitPanics ⟨m, st⟩ .drop = true ↔ 0 < st.bytesSent ∧ st.bytesSent < m.total := by
  show dropPanics m st = true ↔ _
  rw [dropPanics_iff]
  omega

/-- the `Drop` of `finish_if_ok` is silent: it runs only once the counter has reached the total -/
theorem write_ok {m : Msg} {st st' : State} {w w' : Wire} {ev : Ev} {n : Nat} {rest : List WEv}
    (h : writeOnce m st w ev = some (st', w', .ok n)) :
    write m st w (.io ev :: rest) =
      if st'.bytesSent = m.total then (.done st'.serial, st', w', 1)
      else ((write m st' w' rest).1, (write m st' w' rest).2.1, (write m st' w' rest).2.2.1,
            (write m st' w' rest).2.2.2 + 1) := by
  by_cases ha : st'.bytesSent = m.total
  · simp [write, h, ha, allWritten, exitPanics, dropPanics]
  · simp [write, h, ha, allWritten]

theorem write_inv {m : Msg} (evs : List WEv) : ∀ {st : State} {w : Wire}, Inv m st w →
    Inv m (write m st w evs).2.1 (write m st w evs).2.2.1 ∧
    (write m st w evs).1 ≠ .panic ∧
    (∀ s, (write m st w evs).1 = .done s →
      s = st.serial ∧ (write m st w evs).2.1.bytesSent = m.total) := by
  induction evs with
  | nil => exact fun h => ⟨h, nofun, nofun⟩
  | cons e rest ih =>
    intro st w h
    cases e with
    | timeUp => exact ⟨h, nofun, nofun⟩
    | io ev =>
      obtain ⟨w', h1, h2, h0⟩ := writeOnce_inv ev h
      cases ev with
      | accept k =>
        rw [write_ok h1]
        split
        · next ha => exact ⟨h2, nofun, fun s hs => ⟨(WriteRes.done.inj hs).symm, ha⟩⟩
        · exact ih h2
      | _ =>
        -- EAGAIN or an error: nothing moved, `write` hands the context back
        cases h0 rfl
        simp only [write, h1, resOf]
        exact ⟨h, nofun, nofun⟩

/-- `write` terminates when every `sendmsg` takes at least one byte: within any budget `b ≥ 1` of calls that covers
    the bytes still to be sent -/
theorem write_progress {m : Msg} (evs : List WEv) : ∀ {st : State} {w : Wire}, Inv m st w →
    (∀ e ∈ evs, ∃ k, e = .io (.accept k) ∧ 1 ≤ k) →
    ∀ b, 1 ≤ b → m.total - st.bytesSent ≤ b → b ≤ evs.length →
    (write m st w evs).1 = .done st.serial ∧ (write m st w evs).2.2.2 ≤ b := by
  induction evs with
  | nil => exact fun _ _ b hb _ hl => absurd (Nat.le_trans hb hl) (Nat.not_succ_le_zero _)
  | cons e rest ih =>
    intro st w h hall b hb1 hb hl
    obtain ⟨k, rfl, hk⟩ := hall e (List.mem_cons_self ..)
    obtain ⟨w', h1, h2, -⟩ := writeOnce_inv (.accept k) h
    dsimp only [resOf, Res.count] at h1 h2
    -- all that matters of the accepted count `n`: positive while something is left
    have hn : st.bytesSent < m.total → 1 ≤ min k (m.total - st.bytesSent) :=
      fun hlt => Nat.le_min.2 ⟨hk, Nat.sub_pos_of_lt hlt⟩
    generalize min k (m.total - st.bytesSent) = n at h1 h2 hn
    have hle : st.bytesSent + n ≤ m.total := h2.le
    rw [write_ok h1]
    by_cases hd : st.bytesSent + n = m.total
    · exact (if_pos hd).symm ▸ ⟨rfl, hb1⟩
    · -- one call and at least one byte less: the budget `b - 1` does for the rest
      have hn := hn (by omega)
      rw [Nat.sub_le_iff_le_add] at hb
      obtain ⟨b, rfl⟩ := Nat.exists_eq_add_one_of_ne_zero (Nat.ne_of_gt hb1)
      obtain ⟨g1, g2⟩ := ih h2 (fun e he => hall e (List.mem_cons_of_mem _ he)) b (by omega)
        (Nat.sub_le_iff_le_add.2 (show m.total ≤ b + (st.bytesSent + n) by omega)) (Nat.le_of_succ_le_succ hl)
      exact (if_neg hd).symm ▸ ⟨g1, Nat.succ_le_succ g2⟩

theorem write_zero_spins {m : Msg} (n : Nat) : ∀ {st : State} {w : Wire}, Inv m st w →
    st.bytesSent < m.total →
    write m st w (List.replicate n (.io (.accept 0))) = (.running, st, w, n) := by
  induction n with
  | zero => intro _ _ _ _; rfl
  | succ n ih =>
    intro st w h hlt
    obtain ⟨w', h1, -, h0⟩ := writeOnce_inv (.accept 0) h
    cases h0 (Nat.zero_min _)
    have h1 : writeOnce m st w (.accept 0) = some (st, w, .ok 0) :=
      h1.trans (by simp only [resOf, Res.count, Nat.zero_min, Nat.add_zero])
    rw [List.replicate_succ, write_ok h1, if_neg (Nat.ne_of_lt hlt), ih h hlt]

end Rustbus.Send
