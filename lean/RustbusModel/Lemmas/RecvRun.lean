import RustbusModel.Lemmas.RecvInv
/-!
C09, whole histories (`run`). From ANY state over ANY stream: no history reports `ConnectionClosed`, none can see a
reservation. Over well-formed frames: every reachable state satisfies `Inv` for the frames not yet handed out; the
one-byte-at-a-time history.
-/
namespace Rustbus.Recv

variable {p : Frame → Nat}

theorem msgs_append (a b : List Res) : msgs (a ++ b) = msgs a ++ msgs b := by
  induction a with
  | nil => rfl
  | cons r a ih => cases r <;> simp [msgs, ih]

theorem msgs_cons (r : Res) (tr : List Res) : msgs (r :: tr) = msgs [r] ++ msgs tr :=
  msgs_append [r] tr

theorem msgs_map_msg (fs : List Frame) : msgs (fs.map (fun f => Res.msg f.bytes f.fds)) = fs := by
  induction fs with
  | nil => rfl
  | cons f fs ih => simp [msgs, ih]

theorem run_call (st : State) (w : World) (c : Call) (evs : List Ev) (acts : List Action) :
    run st w (.call c evs :: acts) =
      ((step c st w evs).1 :: (run (step c st w evs).2.1 (step c st w evs).2.2 acts).1,
        (run (step c st w evs).2.1 (step c st w evs).2.2 acts).2) := rfl

theorem run_append : ∀ (a b : List Action) (st : State) (w : World),
    run st w (a ++ b) =
      ((run st w a).1 ++ (run (run st w a).2.1 (run st w a).2.2 b).1,
        (run (run st w a).2.1 (run st w a).2.2 b).2)
  | [], _, _, _ => rfl
  | .arrive _ :: a, b, _, _ => run_append a b _ _
  | .call c evs :: a, b, st, w => by
    simp only [List.cons_append, run_call, run_append a b]

theorem run_ne_closed : ∀ (acts : List Action) (st : State) (w : World), Res.closed ∉ (run st w acts).1
  | [], _, _ => nofun
  | .arrive _ :: acts, _, _ => run_ne_closed acts _ _
  | .call c evs :: acts, st, w =>
    List.not_mem_cons_of_ne_of_not_mem (step_ne_closed c st w evs).symm (run_ne_closed acts _ _)

theorem run_reserve_trace {nd : Nat} : ∀ (acts : List Action) (st : State) (w : World), check st = .need nd →
    (run (reserve st nd) w acts).1 = (run st w acts).1
  | [], _, _, _ => rfl
  | .arrive _ :: acts, st, _, hc => run_reserve_trace acts st _ hc
  | .call c evs :: acts, st, w, hc => by rw [run_call, run_call, step_reserve hc]

theorem run_inv : ∀ (acts : List Action) {todo : List Frame} {st : State} {w : World}, Inv p todo st w →
    ∃ todo', Inv p todo' (run st w acts).2.1 (run st w acts).2.2 ∧ todo = msgs (run st w acts).1 ++ todo' ∧
      ∀ r ∈ (run st w acts).1, r.good = true
  | [], todo, _, _, hI => ⟨todo, hI, rfl, nofun⟩
  | .arrive n :: acts, _, _, _, hI => run_inv acts (hI.arrive n)
  | .call c evs :: acts, _, _, _, hI => by
    obtain ⟨_, hI1, ht1, hg1⟩ := step_inv hI c evs
    obtain ⟨todo2, hI2, ht2, hg2⟩ := run_inv acts hI1
    simp only [run_call]
    exact ⟨todo2, hI2, by rw [msgs_cons, ht1, ht2, List.append_assoc], List.forall_mem_cons.mpr ⟨hg1, hg2⟩⟩

theorem run_init {frames : List Frame} {acts : List Action} {tr : List Res} {st : State} {w : World}
    (hok : FramesOk p frames) (h : run State.empty (World.init p frames) acts = (tr, st, w)) :
    Inv p (frames.drop (msgs tr).length) st w ∧ msgs tr = frames.take (msgs tr).length ∧
    (msgs tr).length ≤ frames.length ∧ ∀ r ∈ tr, r.good = true := by
  obtain ⟨todo, hI, ht, hg⟩ := run_inv acts (inv_init hok)
  rw [h] at hI ht hg
  refine ⟨?_, ?_, ?_, hg⟩
  · rwa [ht, List.drop_left]
  · rw [ht, List.take_left]
  · rw [ht, List.length_append]; exact Nat.le_add_right ..

/-- the peer's bytes arrive one at a time and after each the client calls `get_next_message`, whose single
    `recvmsg` returns that one byte -/
def oneByte : Nat → List Action
  | 0 => []
  | n + 1 => .arrive 1 :: .call .getNext [.deliver 1] :: oneByte n

/-- the number of bytes the peer writes for `fs`: the length of their stream (`stream_length`) -/
def totalLen : List Frame → Nat
  | [] => 0
  | f :: fs => f.bytes.length + totalLen fs

theorem stream_length (p : Frame → Nat) (fs : List Frame) : (stream p fs).length = totalLen fs := by
  induction fs with
  | nil => rfl
  | cons f fs ih => simp [stream, totalLen, cells_length, ih]

theorem getNext_one {st : State} {w : World} {nd : Nat} (hc : check st = .need nd) (hr : w.rest ≠ []) :
    (getNext st (w.arrive 1) [.deliver 1]).2.2.rest = w.rest.drop 1 := by
  have hg : granted (w.arrive 1) (request st nd) 1 = 1 :=
    Nat.le_antisymm (Nat.min_le_left ..) (Nat.pos_of_ne_zero (granted_ne_zero.mpr
      ⟨Nat.one_ne_zero, refill_request_pos (check_need hc).1, Nat.succ_ne_zero _, hr⟩))
  rw [getNext_world]
  simp only [readWhole, hc, refill_short (check_need hc).1, hg]
  exact congrArg World.rest (readWhole_nil_world ..)

theorem oneByte_run : ∀ (n : Nat) {todo : List Frame} {st : State} {w : World},
    Inv p todo st w → check st ≠ .whole → w.rest.length = n →
    msgs (run st w (oneByte n)).1 = todo ∧ (run st w (oneByte n)).2.1.buf = [] ∧ (run st w (oneByte n)).2.2.rest = []
  | 0, todo, st, w, hI, hw, hn => by
    have hr : w.rest = [] := List.eq_nil_of_length_eq_zero hn
    cases hI.rest_nil hr hw
    exact ⟨rfl, hI.nothing_left.1, hr⟩
  | n + 1, todo, st, w, hI, hw, hn => by
    have hrne : w.rest ≠ [] := List.ne_nil_of_length_pos (hn ▸ Nat.succ_pos n)
    have hc := hI.check_eq
    rw [if_neg (fun h => hw (by rw [hc, if_pos h]))] at hc
    obtain ⟨todo1, hI1, ht1, _⟩ := step_inv (hI.arrive 1) .getNext [.deliver 1]
    obtain ⟨hm, hb, hrr⟩ := oneByte_run n hI1 (getNext_not_whole (hI.arrive 1) _)
      (by show (getNext _ _ _).2.2.rest.length = n; rw [getNext_one hc hrne, List.length_drop, hn]; rfl)
    simp only [oneByte, run]
    exact ⟨by rw [msgs_cons, hm, ht1], hb, hrr⟩

end Rustbus.Recv
