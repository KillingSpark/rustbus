import RustbusModel.Spec.Rpc
/-!
C14, the abstraction relation `Refines` by itself. It does not look at the socket, and only two things move it: a
delivery (`Refines.deliver`, for any consumer) and a message read (`Refines.read`). Conservation is a fact about
`Refines` alone.
-/
namespace Rustbus.Rpc

theorem append_append_perm {α} (a b c d : List α) : ((a ++ b) ++ (c ++ d)).Perm ((a ++ c) ++ (b ++ d)) := by
  rw [List.append_assoc, List.append_assoc]
  exact (List.perm_append_comm_assoc b c d).append_left a

theorem filter_perm_split {α} {p q r : α → Bool}
    (h : ∀ a, p a = (q a || r a) ∧ (q a && r a) = false) :
    ∀ l : List α, (l.filter p).Perm (l.filter q ++ l.filter r)
  | [] => .refl _
  | x :: l => by
    have ih := filter_perm_split h l
    obtain ⟨hp, hqr⟩ := h x
    cases hq : q x <;> cases hr : r x <;> simp [hp, hq, hr] at hqr ⊢
    · exact ih
    · exact (ih.cons x).trans List.perm_middle.symm
    · exact ih

theorem find?_of_unique {α} {p : α → Bool} {a : α} : ∀ {l : List α},
    l.Pairwise (fun x y => p x = true → p y = true → False) → a ∈ l → p a = true →
    l.find? p = some a
  | x :: l, hl, ha, hp => by
    rw [List.pairwise_cons] at hl
    rcases List.mem_cons.mp ha with rfl | ha
    · rw [List.find?_cons_of_pos hp]
    · rw [List.find?_cons_of_neg fun hx => hl.1 a ha hx hp]
      exact find?_of_unique hl.2 ha hp

theorem mapInsert_fresh {k : Nat} {m : Msg} {rs : List (Nat × Msg)} (h : ∀ p ∈ rs, p.1 ≠ k) :
    mapInsert k m rs = (k, m) :: rs := by
  unfold mapInsert
  congr 1
  rw [List.filter_eq_self]
  intro p hp
  simpa using h p hp

theorem mapRemove_none {k : Nat} {rs rs' : List (Nat × Msg)} (h : mapRemove k rs = (none, rs')) :
    rs' = rs := by
  unfold mapRemove at h
  split at h
  · simp at h
  · simp only [Prod.mk.injEq, true_and] at h; exact h.symm

theorem mapRemove_some {k : Nat} {rs rs' : List (Nat × Msg)} {m : Msg}
    (hn : (rs.map (·.1)).Nodup) (h : mapRemove k rs = (some m, rs')) :
    rs.Perm ((k, m) :: rs') ∧ rs'.Sublist rs := by
  unfold mapRemove at h
  split at h
  · rename_i p hp
    simp only [Prod.mk.injEq, Option.some.injEq] at h
    obtain ⟨rfl, rfl⟩ := h
    refine ⟨?_, List.filter_sublist⟩
    -- `p` is the first entry under `k`; by `hn` nothing after it has that key either
    obtain ⟨hpk, as, bs, rfl, has⟩ := List.find?_eq_some_iff_append.mp hp
    have hpk : p.1 = k := by simpa using hpk
    have has : ∀ q ∈ as, (q.1 != k) = true := has
    rw [List.map_append, List.map_cons, List.nodup_append] at hn
    have hbs : ∀ q ∈ bs, (q.1 != k) = true := by
      intro q hq
      have := (List.nodup_cons.mp hn.2.1).1
      simp only [bne_iff_ne, ne_eq, ← hpk]
      exact fun h' => this (h' ▸ List.mem_map_of_mem hq)
    rw [List.filter_append, List.filter_cons, List.filter_eq_self.mpr has, List.filter_eq_self.mpr hbs]
    simp only [hpk, bne_self_eq_false, Bool.false_eq_true, if_false]
    rw [show (k, p.2) = p from Prod.ext hpk.symm rfl]
    exact List.perm_middle
  · simp at h

theorem toConsumer_append (k : Consumer) (a b : List (Consumer × Msg)) :
    toConsumer k (a ++ b) = toConsumer k a ++ toConsumer k b := by
  simp [toConsumer]

theorem toResponders_append (a b : List (Consumer × Msg)) :
    toResponders (a ++ b) = toResponders a ++ toResponders b := by
  simp [toResponders]

theorem sigQueue_append (a b : List Msg) : sigQueue (a ++ b) = sigQueue a ++ sigQueue b := by
  simp [sigQueue]
theorem callQueue_append (a b : List Msg) : callQueue (a ++ b) = callQueue a ++ callQueue b := by
  simp [callQueue]
theorem respSet_append (a b : List Msg) : respSet (a ++ b) = respSet a ++ respSet b := by
  simp [respSet]
theorem owed_append (a b : List Msg) : owed (a ++ b) = owed a ++ owed b := by
  simp [owed]

theorem isSignal_iff {m : Msg} : isSignal m = true ↔ m.typ = .signal := by
  cases h : m.typ <;> simp [isSignal, h]
theorem isCall_iff {m : Msg} : isCall m = true ↔ m.typ = .call := by
  cases h : m.typ <;> simp [isCall, h]
theorem isResp_iff {m : Msg} : isResp m = true ↔ m.typ = .reply ∨ m.typ = .error := by
  cases h : m.typ <;> simp [isResp, h]

theorem mem_toConsumer {k : Consumer} {m : Msg} {evs : List (Consumer × Msg)} (h : (k, m) ∈ evs) :
    m ∈ toConsumer k evs :=
  List.mem_map.mpr ⟨(k, m), List.mem_filter.mpr ⟨h, beq_self_eq_true k⟩, rfl⟩

theorem mem_toResponders {s : Nat} {m : Msg} {evs : List (Consumer × Msg)}
    (h : (Consumer.response s, m) ∈ evs) : m ∈ toResponders evs :=
  List.mem_map.mpr ⟨(.response s, m), List.mem_filter.mpr ⟨h, rfl⟩, rfl⟩

theorem handed_partition (evs : List (Consumer × Msg)) :
    (evs.map (·.2)).Perm (toConsumer .signal evs ++ toConsumer .call evs ++ toResponders evs) := by
  -- every event is for exactly one of {signal, call} | responses; the first class splits again into signal | call
  have h := (filter_perm_split (p := fun _ => true) (q := fun e => e.1 == .signal || e.1 == .call)
    (r := fun e => isRespConsumer e.1) (fun ⟨k, _⟩ => by cases k <;> exact ⟨rfl, rfl⟩) evs).trans
    ((filter_perm_split (q := fun e => e.1 == .signal) (r := fun e => e.1 == .call)
      (fun ⟨k, _⟩ => by cases k <;> exact ⟨rfl, rfl⟩) evs).append_right _)
  rw [List.filter_eq_self.mpr fun _ _ => rfl] at h
  simpa [toConsumer, toResponders] using h.map (·.2)

theorem accepted_partition (c : List Msg) :
    (c.filter (·.accepted)).Perm (sigQueue c ++ callQueue c ++ respSet c) :=
  -- the same two splits, by message type: an accepted message passes exactly one of the three filters
  (filter_perm_split (q := fun m => accSignal m || accCall m) (fun m => by
    cases ha : m.accepted <;> cases ht : m.typ <;>
      simp [accSignal, accCall, accResp, isSignal, isCall, isResp, ha, ht]) c).trans
    ((filter_perm_split (fun m => by
      cases ha : m.accepted <;> cases ht : m.typ <;>
        simp [accSignal, accCall, isSignal, isCall, ha, ht]) c).append_right _)

theorem distinct_prefix {a b : List Msg} (h : DistinctReplySerials (a ++ b)) : DistinctReplySerials a :=
  (List.pairwise_append.mp h).1

theorem respMap_of_mem {l : List Msg} {m : Msg} {s : Nat} (hd : DistinctReplySerials l) (hm : m ∈ l)
    (ha : accResp m = true) (hs : m.replySerial = some s) : respMap l s = some m :=
  find?_of_unique (hd.imp fun {x y} hxy hx hy => by
    simp only [accResp, Bool.and_eq_true, beq_iff_eq] at hx hy
    exact hxy hx.1.2 hy.1.2 (hx.2.trans hy.2.symm)) hm (by simp [ha, hs])

theorem Refines.wire {c evs ret st} (h : Refines c evs ret st) (w : List Msg) :
    Refines c evs ret { st with wire := w } :=
  { h with }

theorem Refines.conservation {c evs ret st} (h : Refines c evs ret st) :
    (c.filter (·.accepted)).Perm (evs.map (·.2) ++ queued st) := by
  refine (accepted_partition c).trans ?_
  rw [h.signals, h.calls]
  refine ((h.responses.append_left _).trans ?_).trans
    ((handed_partition evs).symm.append_right (queued st))
  exact ((append_append_perm ..).append_right _).trans (append_append_perm ..)

/-- the ghost event of one getter call -/
def optEvent (k : Consumer) : Option Msg → List (Consumer × Msg)
  | some m => [(k, m)]
  | none => []

theorem tryGet_frame (st : State) (k : Consumer) :
    (tryGet st k).2.wire = st.wire ∧ (tryGet st k).2.sent = st.sent := by
  cases k with
  | response s => exact ⟨rfl, rfl⟩
  | _ => simp only [tryGet]; split <;> exact ⟨rfl, rfl⟩

theorem tryGet_none {st : State} {k : Consumer} (h : (tryGet st k).1 = none) :
    (tryGet st k).2 = st := by
  cases k with
  | response s =>
    simp only [tryGet] at h ⊢
    rw [mapRemove_none (rs' := (mapRemove s st.responses).2) (Prod.ext h rfl)]
  | _ => simp only [tryGet] at h ⊢; split at h <;> simp_all

/-- what `try_get_*` finds for a consumer in the stored messages (nothing is read from the socket) -/
def stored (st : State) : Consumer → Option Msg
  | .signal => st.signals.head?
  | .call => st.calls.head?
  | .response s => (st.responses.find? (fun p => p.1 == s)).map (·.2)

theorem tryGet_is_stored (st : State) (k : Consumer) : (tryGet st k).1 = stored st k := by
  cases k with
  | signal => cases h : st.signals <;> simp [tryGet, stored, h]
  | call => cases h : st.calls <;> simp [tryGet, stored, h]
  | response s =>
    simp only [tryGet, stored, mapRemove]
    cases st.responses.find? (fun p => p.1 == s) <;> simp

/-- One delivery, whatever the consumer: `toConsumer .signal [(k, m)]` is `[m]` for the signal consumer and `[]` for the
    others, so `hs`, `hc`, `hr` say that `m` left the store its consumer reads and the other two stayed. -/
theorem Refines.deliver {c evs ret st st' k m} (h : Refines c evs ret st)
    (hs : st.signals = toConsumer .signal [(k, m)] ++ st'.signals)
    (hc : st.calls = toConsumer .call [(k, m)] ++ st'.calls)
    (hr : (st.responses.map (·.2)).Perm (toResponders [(k, m)] ++ st'.responses.map (·.2)))
    (hsub : st'.responses.Sublist st.responses)
    (hk : ∀ s, k = .response s → m.replySerial = some s) (hsent : st'.sent = st.sent) :
    Refines c (evs ++ [(k, m)]) ret st' := by
  refine ⟨?_, ?_, ?_, (hsub.map (·.1)).nodup h.keys, fun p hp => h.keyed p (hsub.subset hp), ?_, ?_⟩
  · rw [toConsumer_append, h.signals, hs, List.append_assoc]
  · rw [toConsumer_append, h.calls, hc, List.append_assoc]
  · rw [toResponders_append, List.append_assoc]
    exact h.responses.trans (hr.append_left _)
  · intro e he
    rcases List.mem_append.mp he with he | he
    · exact h.underSerial e he
    · rw [List.mem_singleton.mp he]; exact hk
  · rw [hsent]; exact h.errors

theorem Refines.tryGet {c evs ret st} (h : Refines c evs ret st) (k : Consumer) :
    Refines c (evs ++ optEvent k (tryGet st k).1) ret (tryGet st k).2 := by
  cases hr : (Rpc.tryGet st k).1 with
  | none => rw [tryGet_none hr]; simpa [optEvent] using h
  | some m =>
    cases k with
    | signal =>
      cases hs : st.signals with
      | nil => simp [Rpc.tryGet, hs] at hr
      | cons m' r =>
        simp only [Rpc.tryGet, hs, Option.some.injEq] at hr ⊢
        subst hr
        exact h.deliver hs rfl (.refl _) (.refl _) (fun _ hk => nomatch hk) rfl
    | call =>
      cases hs : st.calls with
      | nil => simp [Rpc.tryGet, hs] at hr
      | cons m' r =>
        simp only [Rpc.tryGet, hs, Option.some.injEq] at hr ⊢
        subst hr
        exact h.deliver rfl hs (.refl _) (.refl _) (fun _ hk => nomatch hk) rfl
    | response s =>
      simp only [Rpc.tryGet] at hr ⊢
      obtain ⟨hp, hsub⟩ := mapRemove_some h.keys (Prod.ext hr rfl)
      refine h.deliver rfl rfl (hp.map (·.2)) hsub (fun s' hs' => ?_) rfl
      cases hs'
      exact h.keyed _ (hp.mem_iff.mpr (List.mem_cons_self ..))

/-- What `insert_message_or_send_error` and the loop of `refill_all` do to the three stores: the message joins each queue
    whose filter lets it through, an accepted reply or error is filed under its serial (`none`: it has none, the
    `unwrap()` panic). The two differ only in where the error owed for a rejected call goes. -/
def classify (st : State) (m : Msg) : Option State :=
  (if accResp m then m.replySerial.map (mapInsert · m st.responses) else some st.responses).map
    fun rs => { st with signals := st.signals ++ sigQueue [m], calls := st.calls ++ callQueue [m],
                        responses := rs }

theorem acceptInto_eq {m : Msg} (h : m.accepted = true) (st : State) :
    acceptInto st m = classify st m := by
  cases ht : m.typ <;>
    simp [acceptInto, classify, sigQueue, callQueue, accSignal, accCall, accResp,
      isSignal, isCall, isResp, h, ht] <;> cases m.replySerial <;> rfl

theorem classify_rejected {m : Msg} (h : m.accepted = false) (st : State) :
    classify st m = some st := by
  simp [classify, sigQueue, callQueue, accSignal, accCall, accResp, h]

theorem owed_accepted {m : Msg} (h : m.accepted = true) : owed [m] = [] := by
  simp [owed, rejCall, h]

theorem insertOrSendError_eq (st : State) (m : Msg) :
    insertOrSendError st m =
      (classify st m).map fun st' => { st' with sent := st'.sent ++ owed [m] } := by
  unfold insertOrSendError
  cases ha : m.accepted
  · cases ht : m.typ <;> simp [classify_rejected ha, owed, rejCall, isCall, ha, ht]
  · simp [acceptInto_eq ha, owed_accepted ha]

theorem classify_wire {st st' : State} {m : Msg} (h : classify st m = some st') :
    st'.wire = st.wire := by
  obtain ⟨rs, _, rfl⟩ := Option.map_eq_some_iff.mp h
  rfl

theorem insertOrSendError_wire {st st' : State} {m : Msg} (hi : insertOrSendError st m = some st') :
    st'.wire = st.wire := by
  rw [insertOrSendError_eq, Option.map_eq_some_iff] at hi
  obtain ⟨st₁, hc, rfl⟩ := hi
  exact (classify_wire hc :)

theorem classify_isSome (st : State) {m : Msg} (hw : accResp m = true → m.replySerial ≠ none) :
    (classify st m).isSome = true := by
  unfold classify
  rw [Option.isSome_map]
  split
  · rename_i h
    cases hk : m.replySerial with
    | none => exact absurd hk (hw h)
    | some k => rfl
  · rfl

/-- Every abstract queue is a filter, so reading `m` appends the queue of `[m]` to it, which is what `classify`
    appends to the store; the error owed for `m`, split as the caller likes, goes to `sent` and to the returned
    errors. -/
theorem Refines.read {c evs ret st m st'} (h : Refines c evs ret st) (hd : DistinctReplySerials (c ++ [m]))
    (hc : classify st m = some st') (e₁ e₂ : List ErrReply) (he : owed [m] = e₁ ++ e₂) :
    Refines (c ++ [m]) evs (ret ++ e₂) { st' with sent := st'.sent ++ e₁ } := by
  obtain ⟨rs, hrs, rfl⟩ := Option.map_eq_some_iff.mp hc
  have hresp : (respSet (c ++ [m])).Perm (toResponders evs ++ rs.map (·.2)) ∧
      (rs.map (·.1)).Nodup ∧ ∀ p ∈ rs, p.2.replySerial = some p.1 := by
    rw [respSet_append]
    split at hrs
    · rename_i hm
      obtain ⟨k, hk, rfl⟩ := Option.map_eq_some_iff.mp hrs
      -- the key is new: an entry under `k` would be a reply to `k` read before `m`, so storing `m` overwrites nothing
      have hnot : ∀ p ∈ st.responses, p.1 ≠ k := by
        intro p hp hpk
        have h1 : p.2 ∈ respSet c :=
          h.responses.mem_iff.mpr (List.mem_append_right _ (List.mem_map_of_mem hp))
        simp only [respSet, List.mem_filter, accResp, Bool.and_eq_true] at h1 hm
        apply (List.pairwise_append.mp hd).2.2 p.2 h1.1 m (List.mem_singleton_self m) h1.2.2 hm.2
        rw [h.keyed p hp, hk, hpk]
      rw [mapInsert_fresh hnot, show respSet [m] = [m] by simp [respSet, hm]]
      refine ⟨?_, List.nodup_cons.mpr ⟨fun hmem => ?_, h.keys⟩, fun p hp => ?_⟩
      · refine (h.responses.append_right _).trans ?_
        rw [List.append_assoc]
        exact (List.perm_append_singleton m _).append_left _
      · obtain ⟨p, hp, hpk⟩ := List.mem_map.mp hmem
        exact hnot p hp hpk
      · rcases List.mem_cons.mp hp with rfl | hp
        · exact hk
        · exact h.keyed p hp
    · rename_i hm
      cases hrs
      exact ⟨by simpa [respSet, hm] using h.responses, h.keys, h.keyed⟩
  refine ⟨?_, ?_, hresp.1, hresp.2.1, hresp.2.2, h.underSerial, ?_⟩
  · rw [sigQueue_append, h.signals, List.append_assoc]
  · rw [callQueue_append, h.calls, List.append_assoc]
  · rw [owed_append, he]
    exact (h.errors.append_right _).trans (append_append_perm ..)

end Rustbus.Rpc
