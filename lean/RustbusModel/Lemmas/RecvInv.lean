import RustbusModel.Lemmas.Recv
/-!
C09 over a stream of well-formed frames: the invariant `Inv` of the receive loop; every call keeps it, returns at most
the first pending frame, and cannot fail (`step_inv`: its result is `Res.good`, none of the error results).
-/
namespace Rustbus.Recv
open Rustbus.Header

theorem cellsFrom_map_fst (fds : List Nat) (pos : Nat) : ∀ (bs : List UInt8) (i : Nat),
    (cellsFrom fds pos i bs).map Prod.fst = bs
  | [], _ => rfl
  | b :: bs, i => by simp [cellsFrom, cellsFrom_map_fst fds pos bs (i + 1)]

theorem cells_map_fst (p : Frame → Nat) (f : Frame) : (cells p f).map Prod.fst = f.bytes :=
  cellsFrom_map_fst _ _ _ _

theorem cells_length (p : Frame → Nat) (f : Frame) : (cells p f).length = f.bytes.length := by
  rw [← cells_map_fst p f, List.length_map]

theorem flatMap_snd_nil (l : List (UInt8 × List Nat)) (h : ∀ x ∈ l, x.2 = []) :
    l.flatMap Prod.snd = [] := by
  rw [List.flatMap_eq_nil_iff]; exact h

/-- descriptors ride on one cell only: a prefix carries them exactly if it contains that cell -/
theorem cellsFrom_take_fds (fds : List Nat) (pos : Nat) : ∀ (bs : List UInt8) (i n : Nat),
    ((cellsFrom fds pos i bs).take n).flatMap Prod.snd =
      if i ≤ pos ∧ pos < i + n ∧ pos < i + bs.length then fds else []
  | [], i, n => by
    rw [if_neg (by simp only [List.length_nil]; omega), cellsFrom, List.take_nil]; rfl
  | b :: bs, i, 0 => by
    rw [if_neg (by omega)]; rfl
  | b :: bs, i, n + 1 => by
    simp only [cellsFrom, List.take_succ_cons, List.flatMap_cons, cellsFrom_take_fds fds pos bs (i + 1) n,
      List.length_cons]
    by_cases hi : i = pos
    · rw [if_pos hi, if_neg (by omega), if_pos (by omega), List.append_nil]
    · rw [if_neg hi, List.nil_append]
      congr 1; exact propext (by omega)

theorem cells_take_fds (p : Frame → Nat) (f : Frame) (n : Nat) :
    ((cells p f).take n).flatMap Prod.snd = if p f < n ∧ p f < f.bytes.length then f.fds else [] := by
  rw [cells, cellsFrom_take_fds]
  congr 1; exact propext (by omega)

/-- the frame being assembled (a dummy empty frame when the peer has nothing more to say) -/
def hd (todo : List Frame) : Frame := todo.headD ⟨[], []⟩

/-- well-formed frames whose descriptors ride on one of their bytes (`p f`, the peer's choice) -/
def FramesOk (p : Frame → Nat) (todo : List Frame) : Prop := ∀ f ∈ todo, FrameOk f ∧ p f < f.bytes.length

variable {p : Frame → Nat} {todo : List Frame} {st : State} {w : World}

theorem stream_hd_tail (p : Frame → Nat) (l : List Frame) : stream p l = cells p (hd l) ++ stream p l.tail := by
  cases l <;> rfl

theorem stream_take_hd {n : Nat} (h : n ≤ (hd todo).bytes.length) :
    (stream p todo).take n = (cells p (hd todo)).take n := by
  rw [stream_hd_tail, List.take_append_of_le_length (by rw [cells_length]; exact h)]

theorem hd_length_le (p : Frame → Nat) (todo : List Frame) : (hd todo).bytes.length ≤ (stream p todo).length := by
  rw [stream_hd_tail, List.length_append, cells_length]; exact Nat.le_add_right ..

theorem hd_ok (hok : FramesOk p todo) (hne : todo ≠ []) :
    FrameOk (hd todo) ∧ p (hd todo) < (hd todo).bytes.length := by
  cases todo with
  | nil => exact absurd rfl hne
  | cons f fs => exact hok f List.mem_cons_self

theorem hd_fds_le (hok : FramesOk p todo) : (hd todo).fds.length ≤ cmsgCap := by
  cases todo with
  | nil => exact Nat.zero_le _
  | cons f fs => exact (hok f List.mem_cons_self).1.2.2.2

/-- `todo` = the frames not yet handed out. The client stands `st.buf.length` cells into their stream, inside the
    first frame: the buffer holds the bytes of the cells before that position, `fds_in` their descriptors, the
    socket the cells after it; the reservation stays within the frame (`max 16`: below 16 buffered bytes the announcement
    is 16 whatever the frame, `want`; a well-formed frame has at least 16 bytes, `Inv.cap_le`) -/
structure Inv (p : Frame → Nat) (todo : List Frame) (st : State) (w : World) : Prop where
  ok : FramesOk p todo
  le : st.buf.length ≤ (hd todo).bytes.length
  buf : st.buf = ((stream p todo).take st.buf.length).map Prod.fst
  fds : st.fds = ((stream p todo).take st.buf.length).flatMap Prod.snd
  rest : w.rest = (stream p todo).drop st.buf.length
  cap : st.cap ≤ max 16 (hd todo).bytes.length
  lenCap : st.buf.length ≤ st.cap

theorem inv_init {frames : List Frame} (hok : FramesOk p frames) :
    Inv p frames State.empty (World.init p frames) :=
  ⟨hok, Nat.zero_le _, rfl, rfl, rfl, Nat.zero_le _, Nat.le_refl _⟩

theorem Inv.arrive (hI : Inv p todo st w) (n : Nat) : Inv p todo st (w.arrive n) :=
  { hI with }

theorem Inv.buf_eq (hI : Inv p todo st w) : st.buf = (hd todo).bytes.take st.buf.length := by
  have := hI.buf
  rwa [stream_take_hd hI.le, List.map_take, cells_map_fst] at this

theorem Inv.fds_eq (hI : Inv p todo st w) :
    st.fds = if st.buf.length ≤ p (hd todo) then [] else (hd todo).fds := by
  have hle := hI.le
  rw [hI.fds, stream_take_hd hle, cells_take_fds]
  by_cases h : st.buf.length ≤ p (hd todo)
  · rw [if_pos h, if_neg (by omega)]
  · rw [if_neg h, if_pos (by omega)]

theorem Inv.conservation (hI : Inv p todo st w) :
    (stream p todo).map Prod.fst = st.buf ++ w.rest.map Prod.fst ∧
    (stream p todo).flatMap Prod.snd = st.fds ++ w.rest.flatMap Prod.snd := by
  constructor
  · rw [← List.take_append_drop st.buf.length (stream p todo), List.map_append, ← hI.buf, ← hI.rest]
  · rw [← List.take_append_drop st.buf.length (stream p todo), List.flatMap_append, ← hI.fds, ← hI.rest]

theorem Inv.nothing_left (hI : Inv p [] st w) : st.buf = [] ∧ st.fds = [] ∧ w.rest = [] :=
  ⟨List.eq_nil_of_length_eq_zero (Nat.le_zero.mp hI.le), by rw [hI.fds, stream, List.take_nil]; rfl,
    by rw [hI.rest, stream, List.drop_nil]⟩

theorem Inv.ne_nil (hI : Inv p todo st w) (h : st.buf ≠ [] ∨ w.rest ≠ []) : todo ≠ [] := by
  rintro rfl
  rcases h with h | h
  · exact h hI.nothing_left.1
  · exact h hI.nothing_left.2.2

theorem Inv.cap_le (hI : Inv p todo st w) (hne : todo ≠ []) : st.cap ≤ (hd todo).bytes.length :=
  Nat.le_trans hI.cap (Nat.max_le.mpr ⟨(hd_ok hI.ok hne).1.1, Nat.le_refl _⟩)

theorem Inv.rest_ne_nil (hI : Inv p todo st w) (h : st.buf.length < (hd todo).bytes.length) : w.rest ≠ [] := by
  rw [hI.rest, ne_eq, List.drop_eq_nil_iff]
  exact Nat.not_le.mpr (Nat.lt_of_lt_of_le h (hd_length_le p todo))

/-- `bytes_needed_for_current_message()` on a buffer inside its frame: 16 first, then what those announce -/
def want (todo : List Frame) (st : State) : Nat := if st.buf.length < 16 then 16 else (hd todo).bytes.length

theorem want_le (todo : List Frame) (st : State) : want todo st ≤ max 16 (hd todo).bytes.length := by
  unfold want; split <;> omega

theorem Inv.bytesNeeded_eq (hI : Inv p todo st w) :
    bytesNeeded st.buf = .bytes (want todo st) := by
  unfold want
  by_cases h : st.buf.length < 16
  · rw [if_pos h, bytesNeeded_short _ h]
  · have hne := hI.ne_nil (Or.inl (List.ne_nil_of_length_pos (by omega)))
    rw [if_neg h, ← bytesNeeded_take (Nat.le_refl 16), hI.buf_eq, List.take_take, Nat.min_eq_left (by omega),
      (hd_ok hI.ok hne).1.2.1]

theorem Inv.check_eq (hI : Inv p todo st w) :
    check st = if st.buf.length = (hd todo).bytes.length ∧ todo ≠ [] then .whole else .need (want todo st) := by
  have hle := hI.le
  unfold check
  rw [hI.bytesNeeded_eq]
  unfold want
  by_cases h : st.buf.length < 16
  · rw [if_pos h, if_pos h, if_neg]
    rintro ⟨h1, h2⟩
    have := (hd_ok hI.ok h2).1.1; omega
  · have hne := hI.ne_nil (Or.inl (List.ne_nil_of_length_pos (by omega)))
    simp only [if_neg h, hne, ne_eq, not_false_eq_true, and_true]
    congr 1; exact propext (by omega)

theorem Inv.need_eq (hI : Inv p todo st w) {n : Nat}
    (hc : check st = .need n) : n = want todo st :=
  Needed.bytes.inj ((check_need hc).2.symm.trans hI.bytesNeeded_eq)

theorem Inv.rest_nil (hI : Inv p todo st w) (hr : w.rest = []) (hw : check st ≠ .whole) : todo = [] := by
  cases todo with
  | nil => rfl
  | cons f fs =>
    have h : (stream p (f :: fs)).length ≤ st.buf.length := List.drop_eq_nil_iff.mp (hI.rest.symm.trans hr)
    refine absurd ?_ hw
    rw [hI.check_eq, if_pos ⟨Nat.le_antisymm hI.le (Nat.le_trans (hd_length_le p _) h), List.cons_ne_nil f fs⟩]

theorem Inv.reserve (hI : Inv p todo st w) {nd : Nat}
    (hnd : nd ≤ max 16 (hd todo).bytes.length) : Inv p todo (reserve st nd) w :=
  { hI with
    cap := Nat.max_le.mpr ⟨hI.cap, Nat.le_trans (Nat.min_le_left ..) hnd⟩
    lenCap := Nat.le_trans hI.lenCap (Nat.le_max_left ..) }

theorem Inv.read (hI : Inv p todo st w) {m : Nat}
    (hm : st.buf.length + m ≤ (hd todo).bytes.length) (hc : st.buf.length + m ≤ st.cap) :
    Inv p todo (st.read (w.rest.take m)) (w.read m) := by
  have hr : m ≤ w.rest.length := by
    rw [hI.rest, List.length_drop]
    exact Nat.le_sub_of_add_le' (Nat.le_trans hm (hd_length_le p todo))
  have hlen : (st.read (w.rest.take m)).buf.length = st.buf.length + m := by
    rw [State.read_buf_length, List.length_take, Nat.min_eq_left hr]
  have hS : (stream p todo).take (st.buf.length + m) = (stream p todo).take st.buf.length ++ w.rest.take m := by
    rw [List.take_add, hI.rest]
  -- the cells read carry no more descriptors than the frame has: `take cmsgCap` cuts nothing off
  have hfds : (st.read (w.rest.take m)).fds = st.fds ++ (w.rest.take m).flatMap Prod.snd := by
    have hl : (((stream p todo).take (st.buf.length + m)).flatMap Prod.snd).length ≤ cmsgCap := by
      rw [stream_take_hd hm, cells_take_fds]
      split
      · exact hd_fds_le hI.ok
      · exact Nat.zero_le _
    rw [hS, List.flatMap_append, List.length_append] at hl
    rw [State.read, List.take_of_length_le (Nat.le_trans (Nat.le_add_left ..) hl)]
  refine ⟨hI.ok, hlen ▸ hm, ?_, ?_, ?_, hI.cap, hlen ▸ hc⟩
  · rw [hlen, hS, List.map_append, ← hI.buf]; rfl
  · rw [hlen, hS, hfds, List.flatMap_append, ← hI.fds]
  · rw [hlen, ← List.drop_drop, ← hI.rest]; rfl

theorem refill_inv (hI : Inv p todo st w) {nd : Nat}
    (hnd : nd ≤ max 16 (hd todo).bytes.length) (k : Nat) :
    Inv p todo (refill st w nd k).2.1 (refill st w nd k).2.2 := by
  by_cases hfull : nd ≤ st.buf.length
  · rw [refill_full hfull]; exact hI
  · have hI1 := hI.reserve hnd
    rw [refill_short (Nat.not_le.mp hfull)]
    split
    · exact hI1
    · rename_i hg
      -- what is granted fits the reservation, and the reservation the pending frame
      have hc : st.buf.length + granted w (request st nd) k ≤ (reserve st nd).cap :=
        Nat.add_le_of_le_sub' hI1.lenCap (granted_le_req ..)
      exact hI1.read (Nat.le_trans hc (hI1.cap_le (hI.ne_nil (Or.inr (granted_ne_zero.mp hg).2.2.2)))) hc

theorem readWhole_inv (hI : Inv p todo st w) (evs : List Ev) :
    Inv p todo (readWhole st w evs).2.1 (readWhole st w evs).2.2 :=
  readWhole_rule (P := fun _ => Inv p todo) (Q := fun x => Inv p todo x.2.1 x.2.2) (fun a _ _ _ h => h.arrive a)
    (fun k _ _ _ _ hc h _ => h.need_eq hc ▸ refill_inv h (want_le ..) k)
    (fun _ _ _ _ h => h) (fun _ _ _ _ _ h => h)
    (fun _ _ _ _ hc h => h.need_eq hc ▸ h.reserve (want_le ..))
    evs st w hI

theorem Inv.take {f : Frame} {fs : List Frame} (hI : Inv p (f :: fs) st w)
    (h : st.buf.length = f.bytes.length) : st.buf = f.bytes ∧ st.fds = f.fds ∧ Inv p fs State.empty w := by
  obtain ⟨hf, hpos⟩ := hI.ok f List.mem_cons_self
  refine ⟨?_, ?_, fun g hg => hI.ok g (List.mem_cons_of_mem _ hg), Nat.zero_le _, rfl, rfl, ?_, Nat.zero_le _,
    Nat.le_refl _⟩
  · rw [hI.buf_eq, h]; exact List.take_length
  · rw [hI.fds_eq, if_neg (by rw [h]; exact Nat.not_le.mpr hpos)]; rfl
  · rw [hI.rest, h]; exact List.drop_left' (cells_length p f)

/-- Every statement about `getNext` goes through this. Either the buffer became whole: the first pending frame is handed
    out and the buffer starts again empty; or the loop timed out: `getNext` is `readWhole`, still inside the frame. -/
theorem getNext_inv (hI : Inv p todo st w) (evs : List Ev) :
    (∃ f fs, todo = f :: fs ∧ getNext st w evs = (.msg f.bytes f.fds, State.empty, (readWhole st w evs).2.2) ∧
      Inv p fs State.empty (readWhole st w evs).2.2) ∨
    ((readWhole st w evs).1 = .timedOut ∧ getNext st w evs = readWhole st w evs ∧
      Inv p todo (readWhole st w evs).2.1 (readWhole st w evs).2.2 ∧ ∃ n, check (readWhole st w evs).2.1 = .need n) := by
  have hI' := readWhole_inv hI evs
  have hpost := readWhole_post st w evs
  have hc := hI'.check_eq
  split at hpost
  · rename_i hr
    rw [hpost] at hc
    split at hc
    · rename_i hw
      cases todo with
      | nil => exact absurd rfl hw.2
      | cons f fs =>
        obtain ⟨hb, hf, hI''⟩ := hI'.take hw.1
        refine Or.inl ⟨f, fs, rfl, ?_, hI''⟩
        rw [getNext_of_readOk (Prod.ext hr rfl) (by rw [hb]; exact (hI.ok f List.mem_cons_self).1.2.2.1), hb, hf]
    · cases hc
  · rename_i ht
    exact Or.inr ⟨ht, getNext_of_not_readOk (by rw [ht]; exact nofun), hI', hpost⟩
  · rw [hpost.1] at hc
    split at hc <;> cases hc

theorem getNext_not_whole (hI : Inv p todo st w) (evs : List Ev) :
    check (getNext st w evs).2.1 ≠ .whole := by
  rcases getNext_inv hI evs with ⟨_, _, _, hg, _⟩ | ⟨_, hg, _, n, hn⟩
  · rw [hg]; exact nofun
  · rw [hg, hn]; exact nofun

/-- the results a healthy connection produces -/
def Res.good : Res → Bool
  | .readOk | .skipped | .timedOut | .msg _ _ => true
  | _ => false

theorem readOnce_inv (hI : Inv p todo st w) (evs : List Ev) :
    Inv p todo (readOnce st w evs).2.1 (readOnce st w evs).2.2 ∧
      msgs [(readOnce st w evs).1] = [] ∧ (readOnce st w evs).1.good = true := by
  simp only [readOnce, hI.bytesNeeded_eq, recvWith_eq]
  refine ⟨refill_inv (hI.arrive _) (want_le todo st) _, ?_⟩
  rcases refill_res st (w.arrive (arrivals evs)) (want todo st) (answer evs) with h | ⟨_, h⟩ <;> rw [h] <;>
    exact ⟨rfl, rfl⟩

theorem step_inv (hI : Inv p todo st w) (c : Call) (evs : List Ev) :
    ∃ todo', Inv p todo' (step c st w evs).2.1 (step c st w evs).2.2 ∧
      todo = msgs [(step c st w evs).1] ++ todo' ∧ (step c st w evs).1.good = true := by
  obtain ⟨h1, h2, h3⟩ := readOnce_inv hI evs
  cases c with
  | readOnce => exact ⟨todo, h1, by rw [step, h2]; rfl, h3⟩
  | readMore =>
    simp only [step, readMore]
    split
    · exact ⟨todo, hI, rfl, rfl⟩
    · rename_i hc; rw [hI.check_eq] at hc; split at hc <;> cases hc
    · exact ⟨todo, h1, by rw [h2]; rfl, h3⟩
  | getNext =>
    rcases getNext_inv hI evs with ⟨f, fs, rfl, hg, hI'⟩ | ⟨ht, hg, hI', _⟩
    · simp only [step, hg]; exact ⟨fs, hI', rfl, rfl⟩
    · simp only [step, hg, ht]; exact ⟨todo, hI', rfl, rfl⟩

end Rustbus.Recv
