import RustbusModel.Model.FdConc
/-!
The invariant of C12 relates the shared cell and the `Arc` count to sums over the threads (`sumBy`) of measures that
are read off a thread's `pc`. Here: the measures, and what one atomic step of one thread does to them and to the shared
state (`Local`), proved by going through the branches of `stepThread` (`stepThread_local`).
-/
namespace Rustbus.FdConc

def sumBy (f : Thread → Nat) : List Thread → Nat
  | [] => 0
  | th :: l => f th + sumBy f l

theorem sumBy_split (f : Thread → Nat) {l : List Thread} {i : Nat} {a : Thread} (h : l[i]? = some a) :
    ∃ r, sumBy f l = f a + r ∧ ∀ b, sumBy f (l.set i b) = f b + r := by
  induction l generalizing i with
  | nil => simp at h
  | cons x l ih =>
    cases i with
    | zero =>
      cases h
      exact ⟨sumBy f l, rfl, fun b => rfl⟩
    | succ i =>
      obtain ⟨r, h1, h2⟩ := ih (i := i) h
      refine ⟨f x + r, ?_, ?_⟩
      · simp only [sumBy, h1]; omega
      · intro b; simp only [List.set_cons_succ, sumBy, h2]; omega

theorem sumBy_ge (f : Thread → Nat) {l : List Thread} {th : Thread} (h : th ∈ l) : f th ≤ sumBy f l := by
  obtain ⟨i, hi⟩ := List.getElem?_of_mem h
  obtain ⟨r, e, _⟩ := sumBy_split f hi
  omega

theorem sumBy_eq_zero (f : Thread → Nat) {l : List Thread} (h : ∀ th ∈ l, f th = 0) : sumBy f l = 0 := by
  induction l with
  | nil => rfl
  | cons x l ih =>
    simp only [sumBy, h x (List.mem_cons_self), ih (fun th hth => h th (List.mem_cons_of_mem _ hth))]

/-- handles the thread accounts for in the `Arc` count: the ones it owns plus the one it is consuming -/
def held (th : Thread) : Nat :=
  th.handles + (match th.pc with | .takeLoad | .takeCas _ | .takeDec _ | .dropDec => 1 | _ => 0)

/-- the thread is executing `Drop for UnixFdInner` of the shared cell -/
def inDrop (th : Thread) : Nat :=
  match th.pc with | .innerDrop _ | .dropLoad _ | .dropCas _ _ | .dropClose _ _ => 1 | _ => 0

/-- the thread's `Drop` has put -1 into the cell and has not yet issued the `close` -/
def atClose (th : Thread) : Nat :=
  match th.pc with | .dropClose _ _ => 1 | _ => 0

/-- a successful take whose result has not been reported yet -/
def pendTake (th : Thread) : Nat :=
  match th.pc with
  | .takeDec (some _) => 1
  | .innerDrop k | .dropLoad k | .dropCas k _ | .dropClose k _ => if k.isTakeSome then 1 else 0
  | _ => 0

/-- the takes the thread has reported as `Some` -/
def resTakes (th : Thread) : Nat := th.results.countP Res.isTakeSome

/-- the values a thread carries around or has reported as taken are the original descriptor -/
def Res.wf (orig : Int) : Res → Prop
  | .takeSome fd => fd = orig
  | _ => True

def Pc.wf (orig : Int) : Pc → Prop
  | .takeCas v => v = orig
  | .takeDec (some v) => v = orig
  | .innerDrop k | .dropLoad k => k.wf orig
  | .dropCas k v | .dropClose k v => v = orig ∧ k.wf orig
  | _ => True

def Thread.wf (orig : Int) (th : Thread) : Prop :=
  th.pc.wf orig ∧ ∀ r ∈ th.results, r.wf orig

structure Local (orig : Int) (sh : Shared) (th : Thread) (sh' : Shared) (th' : Thread) (acts : List Act) : Prop where
  /-- every value a thread carries was loaded from the cell while it held the descriptor: the `pc` of `th'`
      carries nothing, or what `th.pc` carried, or `sh.inner` in a branch where that is not -1 -/
  wf : th'.wf orig
  /-- the cell changes only by a successful compare_exchange, from `orig` to -1 -/
  cell : sh'.inner = sh.inner ∧ acts.countP Act.isTook + acts.countP Act.isDropCas = 0 ∨
    sh.inner = orig ∧ sh'.inner = -1 ∧ acts.countP Act.isTook + acts.countP Act.isDropCas = 1
  /-- the `Arc` count: untouched; or incremented by a thread that holds a handle; or decremented by a thread
      that gives one up, which enters `Drop` exactly if the count has reached 0 -/
  arc : sh'.strong = sh.strong ∧ held th' = held th ∧ inDrop th' ≤ inDrop th ∨
    sh'.strong = sh.strong + 1 ∧ held th' = held th + 1 ∧ 1 ≤ held th ∧ inDrop th = 0 ∧ inDrop th' = 0 ∨
    sh.strong = sh'.strong + 1 ∧ held th = held th' + 1 ∧ inDrop th = 0 ∧
      (sh'.strong = 0 ∧ inDrop th' = 1 ∨ 0 < sh'.strong ∧ inDrop th' = 0)
  /-- `dropClose` is entered by a successful compare_exchange of `Drop` and left by the `close` of the original -/
  closeEq : acts.countP (Act.isCloseOf orig) + atClose th' = atClose th + acts.countP Act.isDropCas
  /-- a successful compare_exchange of a take makes one pending take, which becomes one reported `Some` -/
  takeEq : resTakes th' + pendTake th' = resTakes th + pendTake th + acts.countP Act.isTook
  /-- the compare_exchange of `Drop` is issued from inside `Drop` only, hence not while the `Arc` count is positive -/
  dcasDrop : acts.countP Act.isDropCas ≤ inDrop th
  /-- `Drop` ends on a load of -1 or a failed compare_exchange, or with the `close`. The `close` step does not look
      at the cell; that the cell holds -1 then is not a fact about one thread, it comes from the invariant over all
      threads (`Inv` in Lemmas/FdConcInv.lean, last case of `inv_step`). -/
  leaveDrop : inDrop th' < inDrop th → sh'.inner = -1 ∨ atClose th = 1

/-- In each branch the measures of `th` and `th'` are numerals or atoms, and every field of `Local` but the first is
    linear arithmetic. -/
theorem stepThread_local {orig : Int} {sh sh' : Shared} {th th' : Thread} {acts : List Act}
    (h : stepThread sh th = some (sh', th', acts)) (hin : sh.inner = orig ∨ sh.inner = -1)
    (hw : th.wf orig) : Local orig sh th sh' th' acts := by
  have hpc := hw.1
  have hres := eq_true hw.2
  revert h
  -- One case per branch of the definition, numbered in its order (`#check @stepThread.fun_cases_unfolding` lists
  -- them). Cases 14 and 23 are `takeDec r` and `dropDec`, whose outcome is `decrement sh th k`: they are split again
  -- along `decrement`, `takeDec r` after `cases r` because its `k` is a `match` on `r`. Case 15 is `getLoad`, which
  -- reports an `if`: it is split so that each branch reports a constructor. After that every goal is
  -- `x = some (sh', th', acts) → _` with `x` either `none` or an explicit triple, and `cases` on that equation closes
  -- the goal or puts the triple in.
  fun_cases stepThread sh th
  case' case14 r _ => cases r
  case' case14.some | case14.none | case23 => fun_cases decrement sh th _
  case' case15 => split
  all_goals
    intro h
    cases h
  all_goals
    simp only [Pc.wf, Res.wf, *] at hpc
    refine ⟨?_, ?_, ?_, ?_, ?_, ?_, ?_⟩
    · -- the old results are disposed of first (`hres` rewrites the whole `∀`): once `Res.wf` is in the simp set it
      -- is unfolded under the binder and `hres` no longer matches
      simp only [Thread.wf, Thread.finish, List.forall_mem_append, List.forall_mem_singleton, hres]
      simp [Pc.wf, Res.wf, *] <;> omega
    all_goals
      simp [held, inDrop, atClose, pendTake, resTakes, Thread.finish, Act.isTook, Act.isDropCas, Act.isCloseOf,
        Res.isTakeSome, *] <;>
      omega

end Rustbus.FdConc
