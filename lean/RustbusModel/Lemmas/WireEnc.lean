import RustbusModel.Lemmas.WireBase
/-!
The recursion of `enc` made usable: inversion of each successful arm (`enc_X_some` with the value's constructor
given; `enc_array_inv`, `enc_dict_inv` for a value not yet known to have it), a dict as the array of its entry
structs (so that no induction below has a case for `encEntries`: the dict case of either principle is handed the
array), and two induction principles: `tyval_induct` over all (type, value) pairs, for equations between
functions that recurse like `enc`, and `enc_some_induct` over the successful encodings.
-/
namespace Rustbus.Wire
open Rustbus.Bytes

/-- the (type, value) pairs handled by a proper arm of `enc` -/
def shapeOk : Ty → Val → Bool
  | .base _, _ => true
  | .array _, .arr _ => true
  | .dict _ _, .arr _ => true
  | .struct _, .struct _ => true
  | .variant, .variant _ _ => true
  | _, _ => false

theorem enc_bad {bo : ByteOrder} {off : Nat} {t : Ty} {v : Val} (h : shapeOk t v = false) :
    enc bo off t v = none := by
  cases t <;> cases v <;> simp [shapeOk] at h <;> simp [enc]

theorem enc_array_some {bo : ByteOrder} {off : Nat} {e : Ty} {vs : List Val} {bs : List UInt8}
    (h : enc bo off (.array e) (.arr vs) = some bs) :
    ∃ body, encList bo (off + padLen 4 off + 4 + padLen e.align (off + padLen 4 off + 4)) e vs = some body ∧
      body.length ≤ maxArrayLen ∧
      bs = zeros (padLen 4 off) ++ (bytesOf bo 4 body.length ++
            (zeros (padLen e.align (off + padLen 4 off + 4)) ++ body)) := by
  rw [enc] at h
  split at h
  · cases h
  · rename_i body hb
    split at h
    · cases h
      exact ⟨body, hb, ‹_›, rfl⟩
    · cases h

theorem enc_array_inv {bo : ByteOrder} {off : Nat} {e : Ty} {v : Val} {bs : List UInt8}
    (h : enc bo off (.array e) v = some bs) :
    ∃ vs body, v = .arr vs ∧
      encList bo (off + padLen 4 off + 4 + padLen e.align (off + padLen 4 off + 4)) e vs = some body ∧
      body.length ≤ maxArrayLen ∧
      bs = zeros (padLen 4 off) ++ (bytesOf bo 4 body.length ++
            (zeros (padLen e.align (off + padLen 4 off + 4)) ++ body)) := by
  cases v with
  | arr vs =>
    obtain ⟨body, hb, hl, hbs⟩ := enc_array_some h
    exact ⟨vs, body, rfl, hb, hl, hbs⟩
  | _ => rw [enc_bad rfl] at h; cases h

theorem enc_struct_some {bo : ByteOrder} {off : Nat} {fs : List Ty} {vs : List Val} {bs : List UInt8}
    (h : enc bo off (.struct fs) (.struct vs) = some bs) :
    fs ≠ [] ∧ ∃ body, encFields bo (off + padLen 8 off) fs vs = some body ∧
      bs = zeros (padLen 8 off) ++ body := by
  rw [enc] at h
  split at h
  · cases h
  · rename_i hne
    split at h
    · cases h
    · rename_i body hb
      cases h
      exact ⟨mt List.isEmpty_iff.2 hne, body, hb, rfl⟩

theorem enc_variant_some {bo : ByteOrder} {off : Nat} {t : Ty} {v : Val} {bs : List UInt8}
    (h : enc bo off .variant (.variant t v) = some bs) :
    variantTypeOk t = true ∧
    ∃ body, enc bo (off + (sigBytes t).length + 2) t v = some body ∧
      bs = UInt8.ofNat (sigBytes t).length :: (sigBytes t ++ (0 :: body)) := by
  rw [enc] at h
  split at h
  · rename_i hok
    dsimp only at h
    split at h
    · cases h
    · rename_i body hb
      cases h
      exact ⟨hok, body, hb, rfl⟩
  · cases h

theorem encList_cons_some {bo : ByteOrder} {off : Nat} {e : Ty} {v : Val} {vs : List Val} {bs : List UInt8}
    (h : encList bo off e (v :: vs) = some bs) :
    ∃ b r, enc bo off e v = some b ∧ encList bo (off + b.length) e vs = some r ∧ bs = b ++ r := by
  rw [encList] at h
  split at h
  · cases h
  · rename_i b hb
    split at h
    · cases h
    · rename_i r hr
      cases h
      exact ⟨b, r, hb, hr, rfl⟩

theorem encFields_cons_some {bo : ByteOrder} {off : Nat} {t : Ty} {ts : List Ty} {v : Val} {vs : List Val}
    {bs : List UInt8} (h : encFields bo off (t :: ts) (v :: vs) = some bs) :
    ∃ b r, enc bo off t v = some b ∧ encFields bo (off + b.length) ts vs = some r ∧ bs = b ++ r := by
  rw [encFields] at h
  split at h
  · cases h
  · rename_i b hb
    split at h
    · cases h
    · rename_i r hr
      cases h
      exact ⟨b, r, hb, hr, rfl⟩

theorem encEntries_cons_some {bo : ByteOrder} {off : Nat} {k : Base} {vt : Ty} {kv vv : Val}
    {rest : List Val} {bs : List UInt8}
    (h : encEntries bo off k vt (.struct [kv, vv] :: rest) = some bs) :
    ∃ kb vb rb, encBase bo (off + padLen 8 off) k kv = some kb ∧
      enc bo (off + padLen 8 off + kb.length) vt vv = some vb ∧
      encEntries bo (off + padLen 8 off + kb.length + vb.length) k vt rest = some rb ∧
      bs = zeros (padLen 8 off) ++ (kb ++ (vb ++ rb)) := by
  rw [encEntries] at h
  split at h
  · cases h
  · rename_i kb hk
    split at h
    · cases h
    · rename_i vb hv
      split at h
      · cases h
      · rename_i rb hr
        cases h
        exact ⟨kb, vb, rb, hk, hv, hr, rfl⟩

theorem enc_entry (bo : ByteOrder) (off : Nat) (k : Base) (vt : Ty) (kv vv : Val) :
    enc bo off (.struct [.base k, vt]) (.struct [kv, vv]) =
      match encBase bo (off + padLen 8 off) k kv with
      | none => none
      | some kb =>
        match enc bo (off + padLen 8 off + kb.length) vt vv with
        | none => none
        | some vb => some (zeros (padLen 8 off) ++ (kb ++ vb)) := by
  simp only [enc, encFields, List.isEmpty_cons, Bool.false_eq_true, if_false]
  cases encBase bo (off + padLen 8 off) k kv with
  | none => rfl
  | some kb =>
    simp only
    cases enc bo (off + padLen 8 off + kb.length) vt vv with
    | none => rfl
    | some vb => simp

theorem encFields_length {bo : ByteOrder} {off : Nat} {ts : List Ty} {vs : List Val} {bs : List UInt8}
    (h : encFields bo off ts vs = some bs) : ts.length = vs.length := by
  induction ts generalizing vs off bs with
  | nil =>
    cases vs with
    | nil => rfl
    | cons v vs => simp [encFields] at h
  | cons t ts ih =>
    cases vs with
    | nil => simp [encFields] at h
    | cons v vs =>
      obtain ⟨b, r, _, h2, _⟩ := encFields_cons_some h
      simp only [List.length_cons, ih h2]

theorem encEntries_bad {bo : ByteOrder} {off : Nat} {k : Base} {vt : Ty} {h : Val} {tl : List Val}
    (hh : ∀ kv vv, h ≠ .struct [kv, vv]) : encEntries bo off k vt (h :: tl) = none := by
  unfold encEntries
  split
  · rename_i heq; cases heq
  · rename_i heq; cases heq; exact (hh _ _ rfl).elim
  · rfl

theorem enc_entry_bad {bo : ByteOrder} {off : Nat} {k : Base} {vt : Ty} {h : Val}
    (hh : ∀ kv vv, h ≠ .struct [kv, vv]) : enc bo off (.struct [.base k, vt]) h = none := by
  cases h with
  | struct vs =>
    cases he : enc bo off (.struct [.base k, vt]) (.struct vs) with
    | none => rfl
    | some bs =>
      obtain ⟨_, body, hb, _⟩ := enc_struct_some he
      match vs, encFields_length hb with
      | [kv, vv], _ => exact (hh kv vv rfl).elim
  | _ => exact enc_bad rfl

theorem encEntries_eq_encList (bo : ByteOrder) (k : Base) (vt : Ty) (es : List Val) (off : Nat) :
    encEntries bo off k vt es = encList bo off (.struct [.base k, vt]) es := by
  induction es generalizing off with
  | nil => simp only [encEntries, encList]
  | cons h tl ih =>
    by_cases hh : ∃ kv vv, h = .struct [kv, vv]
    · obtain ⟨kv, vv, rfl⟩ := hh
      simp only [encEntries, encList, enc_entry]
      cases encBase bo (off + padLen 8 off) k kv with
      | none => rfl
      | some kb =>
        simp only
        cases enc bo (off + padLen 8 off + kb.length) vt vv with
        | none => rfl
        | some vb =>
          simp only [ih, List.length_append, zeros_length, Nat.add_assoc]
          cases encList bo (off + (padLen 8 off + (kb.length + vb.length))) (.struct [.base k, vt]) tl with
          | none => rfl
          | some r => simp only [List.append_assoc]
    · have hh' : ∀ kv vv, h ≠ .struct [kv, vv] := fun kv vv e => hh ⟨kv, vv, e⟩
      rw [encEntries_bad hh', encList, enc_entry_bad hh']

theorem enc_dict_eq_array (bo : ByteOrder) (off : Nat) (k : Base) (vt : Ty) (v : Val) :
    enc bo off (.dict k vt) v = enc bo off (.array (.struct [.base k, vt])) v := by
  cases v with
  | arr es => simp only [enc, encEntries_eq_encList, Ty.align]
  | _ => simp only [enc]

theorem enc_dict_some {bo : ByteOrder} {off : Nat} {k : Base} {vt : Ty} {es : List Val} {bs : List UInt8}
    (h : enc bo off (.dict k vt) (.arr es) = some bs) :
    ∃ body, encEntries bo (off + padLen 4 off + 4 + padLen 8 (off + padLen 4 off + 4)) k vt es = some body ∧
      body.length ≤ maxArrayLen ∧
      bs = zeros (padLen 4 off) ++ (bytesOf bo 4 body.length ++
            (zeros (padLen 8 (off + padLen 4 off + 4)) ++ body)) := by
  rw [enc_dict_eq_array] at h
  obtain ⟨body, hb, hl, hbs⟩ := enc_array_some h
  exact ⟨body, encEntries_eq_encList .. ▸ hb, hl, hbs⟩

theorem enc_dict_inv {bo : ByteOrder} {off : Nat} {k : Base} {vt : Ty} {v : Val} {bs : List UInt8}
    (h : enc bo off (.dict k vt) v = some bs) :
    ∃ es body, v = .arr es ∧
      encEntries bo (off + padLen 4 off + 4 + padLen 8 (off + padLen 4 off + 4)) k vt es = some body ∧
      body.length ≤ maxArrayLen ∧
      bs = zeros (padLen 4 off) ++ (bytesOf bo 4 body.length ++
            (zeros (padLen 8 (off + padLen 4 off + 4)) ++ body)) := by
  rw [enc_dict_eq_array] at h
  obtain ⟨es, body, hv, hb, hl, hbs⟩ := enc_array_inv h
  exact ⟨es, body, hv, encEntries_eq_encList .. ▸ hb, hl, hbs⟩

theorem encEntries_shaped {bo : ByteOrder} {k : Base} {vt : Ty} {es : List Val} {off : Nat} {bs : List UInt8}
    (h : encEntries bo off k vt es = some bs) : ∀ x ∈ es, ∃ kv vv, x = .struct [kv, vv] := by
  induction es generalizing off bs with
  | nil => nofun
  | cons e tl ih =>
    have he : ∃ kv vv, e = .struct [kv, vv] := Classical.byContradiction fun hn => by
      rw [encEntries_bad fun kv vv eq => hn ⟨kv, vv, eq⟩] at h; cases h
    obtain ⟨kv, vv, rfl⟩ := he
    obtain ⟨_, _, _, _, _, h3, _⟩ := encEntries_cons_some h
    exact List.forall_mem_cons.2 ⟨⟨kv, vv, rfl⟩, ih h3⟩

/-- Structural induction on the value, the type arbitrary at every level, presented by the arms of `enc`. -/
theorem tyval_induct
    {P : Ty → Val → Prop} {PL : Ty → List Val → Prop} {PF : List Ty → List Val → Prop}
    (hbase : ∀ b v, P (.base b) v)
    (harr : ∀ e vs, PL e vs → P (.array e) (.arr vs))
    (hdict : ∀ k vt es, P (.array (.struct [.base k, vt])) (.arr es) → P (.dict k vt) (.arr es))
    (hstruct : ∀ fs vs, PF fs vs → P (.struct fs) (.struct vs))
    (hvar : ∀ t v, P t v → P .variant (.variant t v))
    (hbad : ∀ t v, shapeOk t v = false → P t v)
    (hLnil : ∀ e, PL e [])
    (hLcons : ∀ e v vs, P e v → PL e vs → PL e (v :: vs))
    (hFnil : PF [] [])
    (hFcons : ∀ t ts v vs, P t v → PF ts vs → PF (t :: ts) (v :: vs))
    (hFbad1 : ∀ v vs, PF [] (v :: vs))
    (hFbad2 : ∀ t ts, PF (t :: ts) []) :
    (∀ t v, P t v) ∧ (∀ e vs, PL e vs) ∧ (∀ fs vs, PF fs vs) := by
  have hnil : (∀ e, PL e []) ∧ (∀ fs, PF fs []) :=
    ⟨hLnil, fun fs => match fs with | [] => hFnil | t :: ts => hFbad2 t ts⟩
  have hcons : ∀ v vs, (∀ t, P t v) → ((∀ e, PL e vs) ∧ (∀ fs, PF fs vs)) →
      (∀ e, PL e (v :: vs)) ∧ (∀ fs, PF fs (v :: vs)) := fun v vs h1 h2 =>
    ⟨fun e => hLcons e v vs (h1 e) (h2.1 e),
     fun fs => match fs with | [] => hFbad1 v vs | t :: ts => hFcons t ts v vs (h1 t) (h2.2 ts)⟩
  have key : ∀ v t, P t v := by
    intro v
    refine Val.rec (motive_1 := fun v => ∀ t, P t v)
      (motive_2 := fun vs => (∀ e, PL e vs) ∧ (∀ fs, PF fs vs))
      ?num ?str ?arr ?struct ?variant hnil (fun v vs => hcons v vs) v
    case num | str => intro _ t; cases t with | base b => exact hbase _ _ | _ => exact hbad _ _ rfl
    case arr =>
      intro vs ih t
      cases t with
      | base b => exact hbase _ _
      | array e => exact harr _ _ (ih.1 e)
      | dict k vt => exact hdict _ _ _ (harr _ _ (ih.1 _))
      | _ => exact hbad _ _ rfl
    case struct =>
      intro vs ih t
      cases t with
      | base b => exact hbase _ _
      | struct fs => exact hstruct _ _ (ih.2 fs)
      | _ => exact hbad _ _ rfl
    case variant =>
      intro t' v ih t
      cases t with
      | base b => exact hbase _ _
      | variant => exact hvar _ _ (ih t')
      | _ => exact hbad _ _ rfl
  have keyL : ∀ vs : List Val, (∀ e, PL e vs) ∧ (∀ fs, PF fs vs) := by
    intro vs
    induction vs with
    | nil => exact hnil
    | cons v vs ih => exact hcons v vs (key v) ih
  exact ⟨fun t v => key v t, fun e vs => (keyL vs).1 e, fun fs vs => (keyL vs).2 fs⟩

/-- The graph of `enc` is generated by one rule per arm. -/
theorem enc_some_induct (bo : ByteOrder)
    {P : Nat → Ty → Val → List UInt8 → Prop} {PL : Nat → Ty → List Val → List UInt8 → Prop}
    {PF : Nat → List Ty → List Val → List UInt8 → Prop}
    (base : ∀ off b v bs, encBase bo off b v = some bs → P off (.base b) v bs)
    (arr : ∀ off e vs body, body.length ≤ maxArrayLen →
      PL (off + padLen 4 off + 4 + padLen e.align (off + padLen 4 off + 4)) e vs body →
      P off (.array e) (.arr vs) (zeros (padLen 4 off) ++ (bytesOf bo 4 body.length ++
        (zeros (padLen e.align (off + padLen 4 off + 4)) ++ body))))
    (dict : ∀ off k vt es bs, (∀ x ∈ es, ∃ kv vv, x = .struct [kv, vv]) →
      P off (.array (.struct [.base k, vt])) (.arr es) bs → P off (.dict k vt) (.arr es) bs)
    (struct : ∀ off fs vs body, fs ≠ [] → PF (off + padLen 8 off) fs vs body →
      P off (.struct fs) (.struct vs) (zeros (padLen 8 off) ++ body))
    (var : ∀ off t v body, variantTypeOk t = true → P (off + (sigBytes t).length + 2) t v body →
      P off .variant (.variant t v) (UInt8.ofNat (sigBytes t).length :: (sigBytes t ++ (0 :: body))))
    (Lnil : ∀ off e, PL off e [] [])
    (Lcons : ∀ off e v vs b r, P off e v b → PL (off + b.length) e vs r → PL off e (v :: vs) (b ++ r))
    (Fnil : ∀ off, PF off [] [] [])
    (Fcons : ∀ off t ts v vs b r, P off t v b → PF (off + b.length) ts vs r →
      PF off (t :: ts) (v :: vs) (b ++ r)) :
    (∀ t v off bs, enc bo off t v = some bs → P off t v bs) ∧
    (∀ e vs off bs, encList bo off e vs = some bs → PL off e vs bs) ∧
    (∀ fs vs off bs, encFields bo off fs vs = some bs → PF off fs vs bs) := by
  apply tyval_induct
  case hbase => intro b v off bs h; exact base off b v bs (by simpa only [enc] using h)
  case harr =>
    intro e vs ih off bs h
    obtain ⟨body, hb, hl, rfl⟩ := enc_array_some h
    exact arr off e vs body hl (ih _ _ hb)
  case hdict =>
    intro k vt es ih off bs h
    obtain ⟨_, hb, _, _⟩ := enc_dict_some h
    exact dict off k vt es bs (encEntries_shaped hb) (ih off bs (enc_dict_eq_array .. ▸ h))
  case hstruct =>
    intro fs vs ih off bs h
    obtain ⟨hne, body, hb, rfl⟩ := enc_struct_some h
    exact struct off fs vs body hne (ih _ _ hb)
  case hvar =>
    intro t v ih off bs h
    obtain ⟨hok, body, hb, rfl⟩ := enc_variant_some h
    exact var off t v body hok (ih _ _ hb)
  case hbad => intro t v hs off bs h; rw [enc_bad hs] at h; cases h
  case hLnil => intro e off bs h; cases h; exact Lnil off e
  case hLcons =>
    intro e v vs ih1 ih2 off bs h
    obtain ⟨b, r, h1, h2, rfl⟩ := encList_cons_some h
    exact Lcons off e v vs b r (ih1 _ _ h1) (ih2 _ _ h2)
  case hFnil => intro off bs h; cases h; exact Fnil off
  case hFcons =>
    intro t ts v vs ih1 ih2 off bs h
    obtain ⟨b, r, h1, h2, rfl⟩ := encFields_cons_some h
    exact Fcons off t ts v vs b r (ih1 _ _ h1) (ih2 _ _ h2)
  case hFbad1 | hFbad2 => intro _ _ off bs h; simp [encFields] at h

end Rustbus.Wire
