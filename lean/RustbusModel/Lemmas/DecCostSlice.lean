import RustbusModel.Model.Slice
import RustbusModel.Lemmas.Wire
/-!
The slice fast path (`Model/Slice.lean`): what `sliceBytes` has checked when it succeeds is what the contracts of the
two unsafe sites ask for, and on aligned fixed-size elements the generic element loop ends at the limit exactly when
the window is a whole number of elements, so the fast path computes what `dec` computes (`dec_array_eq_sliceBytes`).
-/
namespace Rustbus.Slice
open Rustbus.Bytes Rustbus.Wire

/-- `memSize b` is `b.fixedSize` by definition, so the first conjunct is also the size of the Rust type -/
theorem validSlice_facts {native bo : ByteOrder} {b : Base} (h : validSlice native bo b = true) :
    b.fixedSize = some b.align ∧ b.bound = 256 ^ b.align ∧ b ≠ .unixfd ∧ (b.align = 1 ∨ bo = native) := by
  cases b <;> simp [validSlice] at h <;> simp [Base.fixedSize, Base.align, Base.bound, h]

theorem sliceBytes_sound {bo : ByteOrder} {buf : List UInt8} {b : Base} {off lim start len : Nat}
    (h : sliceBytes bo buf b off lim = some (start, len)) :
    ∃ o, skipPad buf off lim 4 = some o ∧ readNum bo buf o lim 4 = some len ∧ len ≤ maxArrayLen ∧
      skipPad buf (o + 4) lim b.align = some start ∧ len % b.align = 0 ∧ start + len ≤ lim ∧
      lim ≤ buf.length := by
  unfold sliceBytes at h
  split at h
  · cases h
  rename_i o h1
  split at h
  · cases h
  rename_i n h2
  split at h
  case isFalse => cases h
  rename_i hm
  split at h
  · cases h
  rename_i o2 h3
  split at h
  · cases h
  rename_i hmod
  split at h
  case isFalse => cases h
  rename_i hl
  cases h
  exact ⟨o, h1, h2, hm, h3, Decidable.not_not.1 hmod, hl, (skipPad_iff.1 h1).2.2.1⟩

theorem copy_site_ok {bo : ByteOrder} {buf : List UInt8} {b : Base} {off lim start len : Nat}
    (h : sliceBytes bo buf b off lim = some (start, len)) :
    (Site.copy b.align (len / b.align) start len buf.length (len / b.align)).ok := by
  obtain ⟨o, _, _, _, _, hmod, hl, hbl⟩ := sliceBytes_sound h
  have hcnt : len / b.align * b.align = len := Nat.div_mul_cancel (Nat.dvd_of_mod_eq_zero hmod)
  exact ⟨by omega, by omega, Nat.le_refl _, by omega⟩

theorem borrow_site_ok {bo : ByteOrder} {buf : List UInt8} {b : Base} {off lim start len : Nat} (base : Nat)
    (h : sliceBytes bo buf b off lim = some (start, len)) (hal : (base + start) % b.align = 0) :
    (Site.fromRawParts (base + start) b.align b.align (len / b.align) start len buf.length).ok := by
  obtain ⟨o, _, _, hmax, _, hmod, hl, hbl⟩ := sliceBytes_sound h
  have hcnt : len / b.align * b.align = len := Nat.div_mul_cancel (Nat.dvd_of_mod_eq_zero hmod)
  have hmx : maxArrayLen = 67108864 := rfl
  exact ⟨hal, hcnt, by omega, by omega⟩

theorem decBase_aligned (bo : ByteOrder) (buf : List UInt8) (nfds : Option Nat) (b : Base) (off lim : Nat)
    (hk : b.fixedSize = some b.align) (hb : b.bound = 256 ^ b.align) (hfd : b ≠ .unixfd)
    (hal : off % b.align = 0) (h1 : off ≤ lim) (h2 : lim ≤ buf.length) :
    decBase bo buf nfds b off lim =
      if off + b.align ≤ lim then some (.num (valOf bo (slice buf off b.align)), off + b.align) else none := by
  rw [decBase_fixed_eq hk, skipPad_of_aligned hal h1 h2]
  by_cases hr : off + b.align ≤ lim
  · have hlt : valOf bo (slice buf off b.align) < b.bound := hb ▸ (valOf_slice bo (Nat.le_trans hr h2)).1
    simp only [readNum, hr, h2, and_self, if_true, hlt]
    cases b <;> first | exact absurd rfl hfd | rfl
  · simp only [readNum, hr, false_and, if_false]

theorem decList_fixed (bo : ByteOrder) (buf : List UInt8) (nfds : Option Nat) (d : Nat) (b : Base) (lim : Nat)
    (hk : b.fixedSize = some b.align) (hb : b.bound = 256 ^ b.align) (hfd : b ≠ .unixfd)
    (hpos : 0 < b.align) (h2 : lim ≤ buf.length) (fuel start : Nat)
    (hal : start % b.align = 0) (hle : start ≤ lim) (hf : lim - start ≤ fuel) :
    decList bo buf nfds d (.base b) start lim fuel =
      if (lim - start) % b.align = 0 then some (elems bo buf b.align start ((lim - start) / b.align)) else none := by
  have done : ∀ r : Option (List Val),
      (if lim = lim then some [] else r) =
        if (lim - lim) % b.align = 0 then some (elems bo buf b.align lim ((lim - lim) / b.align)) else none := by
    intro r; simp [elems]
  induction fuel generalizing start with
  | zero => obtain rfl : start = lim := by omega
            rw [decList_zero]; exact done _
  | succ f ih =>
    rw [decList_succ]
    by_cases hs : start = lim
    · subst hs; exact done _
    · rw [if_neg hs, dec_base, decBase_aligned bo buf nfds b start lim hk hb hfd hal hle h2]
      by_cases hr : start + b.align ≤ lim
      · have e : lim - start = lim - (start + b.align) + b.align := by omega
        rw [if_pos hr, e, Nat.add_mod_right, Nat.add_div_right _ hpos]
        simp only []
        rw [ih (start + b.align) (by rw [Nat.add_mod_right]; exact hal) hr (by omega)]
        by_cases hm : (lim - (start + b.align)) % b.align = 0
        · rw [if_pos hm, if_pos hm]; rfl
        · rw [if_neg hm, if_neg hm]
      · rw [if_neg hr, if_neg]
        rw [Nat.mod_eq_of_lt (by omega)]; omega

theorem elems_order (native bo : ByteOrder) (buf : List UInt8) (k : Nat)
    (h : k = 1 ∨ bo = native) (start cnt : Nat) :
    elems native buf k start cnt = elems bo buf k start cnt := by
  rcases h with rfl | rfl
  · induction cnt generalizing start with
    | zero => rfl
    | succ cnt ih =>
      simp only [elems, ih, valOf_slice_one native bo]
  · rfl

theorem dec_array_eq_sliceBytes {native bo : ByteOrder} {buf : List UInt8} {nfds : Option Nat} {d : Nat} {b : Base}
    {off lim : Nat} (hv : validSlice native bo b = true) :
    dec bo buf nfds (d + 1) (.array (.base b)) off lim =
      (sliceBytes bo buf b off lim).map fun p =>
        (.arr (elems native buf b.align p.1 (p.2 / b.align)), p.1 + p.2) := by
  obtain ⟨hk, hb, hfd, hord⟩ := validSlice_facts hv
  have hpos : 0 < b.align := Nat.pos_of_dvd_of_pos (base_align_dvd b) (by decide)
  rw [dec_array]
  unfold sliceBytes
  cases skipPad buf off lim 4 with
  | none => rfl
  | some o =>
    simp only []
    cases readNum bo buf o lim 4 with
    | none => rfl
    | some len =>
      simp only [Ty.align]
      split
      · cases h3 : skipPad buf (o + 4) lim b.align with
        | none => rfl
        | some o2 =>
          simp only []
          by_cases hl : o2 + len ≤ lim
          · rw [if_pos hl, if_pos hl, decList_fixed bo buf nfds d b (o2 + len) hk hb hfd hpos
              (Nat.le_trans hl (skipPad_iff.1 h3).2.2.1) len o2 (skipPad_aligned hpos h3)
              (Nat.le_add_right _ _) (by omega), Nat.add_sub_cancel_left]
            by_cases hm : len % b.align = 0 <;>
              simp [hm, elems_order native bo buf b.align hord]
          · rw [if_neg hl, if_neg hl]; split <;> rfl
      · rfl

end Rustbus.Slice
