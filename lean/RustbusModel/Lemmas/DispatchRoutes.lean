import RustbusModel.Lemmas.DispatchMatch
/-!
C19, the route table: `get_match` and the handler selection, the route table as a map
(`routeOf`) under `insert` / merge and under permutation of the iteration order, one loop iteration,
and the loop over histories.
-/
namespace Rustbus.Dispatch
open Spec

variable {H : Type}

theorem getMatch_eq_findSome? (rs : Routes H) (q : List Char) :
    getMatch rs q = rs.findSome? fun e => (patMatches e.1 q).map (·, e.2) := by
  induction rs with
  | nil => rfl
  | cons e rs ih =>
    rw [getMatch, List.findSome?_cons, ih]
    cases patMatches e.1 q <;> rfl

theorem getMatch_some {rs : Routes H} {q : List Char} {caps : Caps} {h : H}
    (hg : getMatch rs q = some (caps, h)) : ∃ p, (p, h) ∈ rs ∧ patMatches p q = some caps := by
  rw [getMatch_eq_findSome?] at hg
  obtain ⟨⟨p, g⟩, hmem, he⟩ := List.exists_of_findSome?_eq_some hg
  obtain ⟨c, hc, heq⟩ := Option.map_eq_some_iff.mp he
  cases heq
  exact ⟨p, hmem, hc⟩

theorem getMatch_eq_none_iff {rs : Routes H} {q : List Char} :
    getMatch rs q = none ↔ ∀ e ∈ rs, patMatches e.1 q = none := by
  rw [getMatch_eq_findSome?, List.findSome?_eq_none_iff]
  simp only [Option.map_eq_none_iff]

theorem getMatch_cons_of_match {p : Pattern} {h : H} {rs : Routes H} {q : List Char} {caps : Caps}
    (hm : patMatches p q = some caps) : getMatch ((p, h) :: rs) q = some (caps, h) := by
  rw [getMatch, hm]

theorem select_cases (rs : Routes H) (m : Msg) :
    (∃ obj p h caps, m.object = some obj ∧ (p, h) ∈ rs ∧ patMatches p obj = some caps ∧
        select rs m = (.route h, caps)) ∨
    (select rs m = (.default, []) ∧
      (m.object = none ∨ ∃ obj, m.object = some obj ∧ ∀ e ∈ rs, patMatches e.1 obj = none)) := by
  cases hobj : m.object with
  | none => exact .inr ⟨by simp only [select, hobj], .inl rfl⟩
  | some obj =>
    cases hg : getMatch rs obj with
    | none => exact .inr ⟨by simp only [select, hobj, hg], .inr ⟨obj, rfl, getMatch_eq_none_iff.mp hg⟩⟩
    | some r =>
      obtain ⟨p, hmem, hp⟩ := getMatch_some hg
      exact .inl ⟨obj, p, r.2, r.1, rfl, hmem, hp, by simp only [select, hobj, hg]⟩

theorem routeOf_insertRoute (rs : Routes H) (pat : Pattern) (h : H) (p : Pattern) :
    routeOf p (insertRoute rs pat h) = if pat = p then some h else routeOf p rs := by
  induction rs with
  | nil => rfl
  | cons e rs ih =>
    -- the head either is the entry replaced (its key is `pat`), or it stays and cannot have both keys `pat` and `p`
    unfold insertRoute
    split
    · next hq => unfold routeOf; rw [hq]; split <;> rfl
    · next hq =>
      unfold routeOf
      rw [ih]
      by_cases hp : pat = p
      · rw [if_pos hp, if_pos hp, if_neg fun e => hq (e.trans hp.symm)]
      · rw [if_neg hp, if_neg hp]

theorem mem_keys_insertRoute {rs : Routes H} {pat k : Pattern} {h : H}
    (hk : k ∈ (insertRoute rs pat h).map (·.1)) : k = pat ∨ k ∈ rs.map (·.1) := by
  induction rs with
  | nil => exact .inl (List.mem_singleton.mp hk)
  | cons e rs ih =>
    rw [insertRoute] at hk
    split at hk
    · exact .inr hk
    · rcases List.mem_cons.mp hk with rfl | hk
      · exact .inr List.mem_cons_self
      · exact (ih hk).imp_right (List.mem_cons_of_mem _)

theorem keysNodup_insertRoute (rs : Routes H) (pat : Pattern) (h : H) (hnd : KeysNodup rs) :
    KeysNodup (insertRoute rs pat h) := by
  induction rs with
  | nil => exact List.nodup_cons.mpr ⟨List.not_mem_nil, List.nodup_nil⟩
  | cons e rs ih =>
    rw [insertRoute]
    have ⟨h1, h2⟩ := List.nodup_cons.mp hnd
    split
    · exact hnd
    · rename_i ha
      exact List.nodup_cons.mpr ⟨fun hk => (mem_keys_insertRoute hk).elim ha h1, ih h2⟩

theorem keysNodup_perm {rs seen : Routes H} (hp : seen.Perm rs) (hnd : KeysNodup rs) : KeysNodup seen :=
  (hp.map _).nodup_iff.mpr hnd

theorem lastAdd_append (a b : Routes H) (p : Pattern) :
    lastAdd (a ++ b) p = (lastAdd b p).or (lastAdd a p) := by
  rw [lastAdd, List.reverse_append, routeOf_isLookup.append]; rfl

theorem routeOf_foldl_insert (adds rs : Routes H) (p : Pattern) :
    routeOf p (adds.foldl (fun acc e => insertRoute acc e.1 e.2) rs) =
      (lastAdd adds p).or (routeOf p rs) :=
  routeOf_isLookup.foldl_insert routeOf_insertRoute adds rs p

theorem newDispatches_eq (added : List (List Char × H)) :
    newDispatches added =
      (added.map (fun a => (patternNew a.1, a.2))).foldl (fun acc e => insertRoute acc e.1 e.2) [] := by
  simp [newDispatches, pmInsert, List.foldl_map]

theorem keysNodup_newDispatches (added : List (List Char × H)) : KeysNodup (newDispatches added) := by
  rw [newDispatches_eq]
  exact keysNodup_foldl keysNodup_insertRoute _ [] List.nodup_nil

theorem keysNodup_merge (rs nd : Routes H) (h : KeysNodup rs) : KeysNodup (mergeRoutes rs nd) :=
  keysNodup_foldl keysNodup_insertRoute nd rs h

theorem routeOf_merge (rs : Routes H) (added : List (List Char × H)) (p : Pattern) :
    routeOf p (mergeRoutes rs (newDispatches added)) =
      (lastAdd (added.map (fun a => (patternNew a.1, a.2))) p).or (routeOf p rs) := by
  -- `new_dispatches` is a table of its own, merged entry by entry: its keys are distinct, so the order does not matter
  rw [mergeRoutes, routeOf_foldl_insert, lastAdd,
    routeOf_isLookup.perm (List.reverse_perm _) (keysNodup_newDispatches added),
    newDispatches_eq, routeOf_foldl_insert]
  rw [routeOf, Option.or_none]

theorem step_invoked (rs : Routes H) (ev : Event H) : (step rs ev).invoked = [select rs ev.msg] := by
  rw [step]
  split
  · rfl
  all_goals split <;> rfl

theorem step_replyOk (rs : Routes H) (ev : Event H) : ReplyOk ev (step rs ev) := by
  refine ⟨(select rs ev.msg).1, (select rs ev.msg).2, step_invoked rs ev, ?_⟩
  unfold step
  simp only
  cases hres : (ev.behave (select rs ev.msg).1 (select rs ev.msg).2).result with
  | err => exact ⟨rfl, rfl⟩
  | reply r => cases ev.sendOk <;> exact ⟨rfl, rfl⟩
  | empty =>
    cases ev.sendOk with
    | false => exact ⟨rfl, rfl⟩
    | true => exact ⟨_, rfl, rfl, rfl, rfl, rfl⟩

theorem step_routes (rs : Routes H) (ev : Event H) : ∃ added,
    (step rs ev).routes = mergeRoutes rs (newDispatches added) ∧
    addsOf ev (step rs ev) = added.map (fun a => (patternNew a.1, a.2)) := by
  simp only [addsOf, step_invoked, List.flatMap_cons, List.flatMap_nil, List.append_nil]
  unfold step
  simp only
  cases hres : (ev.behave (select rs ev.msg).1 (select rs ev.msg).2).result with
  | err => exact ⟨[], rfl, rfl⟩
  | reply r => exact ⟨_, by cases ev.sendOk <;> rfl, rfl⟩
  | empty => exact ⟨_, by cases ev.sendOk <;> rfl, rfl⟩

theorem runs_allPairs {R : Event H → StepOut H → Prop} (hR : ∀ seen ev, R ev (step seen ev))
    {rs final : Routes H} {evs : List (Event H)} {outs : List (StepOut H)}
    (h : Runs rs evs outs final) : AllPairs R evs outs := by
  induction h with
  | nil => exact AllPairs.nil
  | cons _ _ ih => exact AllPairs.cons (hR _ _) ih

theorem runs_forall₂ {rs final : Routes H} {evs : List (Event H)} {outs : List (StepOut H)}
    (h : Runs rs evs outs final) : AllPairs (fun ev out => ∃ seen, out = step seen ev) evs outs :=
  runs_allPairs (fun seen _ => ⟨seen, rfl⟩) h

theorem runs_length {rs final : Routes H} {evs : List (Event H)} {outs : List (StepOut H)}
    (h : Runs rs evs outs final) : outs.length = evs.length := by
  induction h with
  | nil => rfl
  | cons _ _ ih => simp [ih]

theorem runs_split (pre : List (Event H)) : ∀ {rs final : Routes H} {post : List (Event H)}
    {outs : List (StepOut H)}, Runs rs (pre ++ post) outs final →
    ∃ o1 o2 mid, outs = o1 ++ o2 ∧ o1.length = pre.length ∧ Runs rs pre o1 mid ∧ Runs mid post o2 final := by
  induction pre with
  | nil =>
    intro rs final post outs h
    exact ⟨[], outs, rs, rfl, rfl, Runs.nil rs, h⟩
  | cons ev pre ih =>
    intro rs final post outs h
    cases h with
    | cons hp hrest =>
      obtain ⟨o1, o2, mid, rfl, hl, h1, h2⟩ := ih hrest
      exact ⟨_ :: o1, o2, mid, rfl, by simp [hl], Runs.cons hp h1, h2⟩

theorem runs_table {rs final : Routes H} {evs : List (Event H)} {outs : List (StepOut H)}
    (h : Runs rs evs outs final) (hnd : KeysNodup rs) :
    KeysNodup final ∧ ∀ p, routeOf p final = (lastAdd (okAdds evs outs) p).or (routeOf p rs) := by
  induction h with
  | nil rs => exact ⟨hnd, fun p => by simp [okAdds, lastAdd, routeOf]⟩
  | @cons rs seen ev evs outs final hp _ ih =>
    obtain ⟨added, hr, ha⟩ := step_routes seen ev
    obtain ⟨h1, h2⟩ := ih (hr ▸ keysNodup_merge _ _ (keysNodup_perm hp hnd))
    refine ⟨h1, fun p => ?_⟩
    rw [h2 p, hr, routeOf_merge, ← ha, routeOf_isLookup.perm hp hnd, okAdds, lastAdd_append,
      Option.or_assoc]

end Rustbus.Dispatch
