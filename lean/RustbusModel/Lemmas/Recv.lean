import RustbusModel.Model.Recv
import RustbusModel.Lemmas.HeaderFixed
/-!
C09, the single calls in ANY state over ANY stream, in closed form; the loop of `readWhole` as a proof rule
(`readWhole_rule`); no call reports `ConnectionClosed`; a timeout leaves nothing behind but a reservation, and no
later call can tell that from none (`step_reserve`).
-/
namespace Rustbus.Recv
open Rustbus.Header

/-- how many cells one `recvmsg` hands over: the `m` of `Recv.recvmsg` -/
def granted (w : World) (req k : Nat) : Nat := min k (min req (min w.avail w.rest.length))

/-- the socket after a `recvmsg` that returned `m` cells -/
def World.read (w : World) (m : Nat) : World :=
  { rest := w.rest.drop m, avail := min w.avail w.rest.length - m }

/-- `RecvConn` after a `recvmsg` that returned the cells `cs`: `filled += bytes`, descriptors appended to `fds_in` -/
def State.read (st : State) (cs : List (UInt8 × List Nat)) : State :=
  { st with buf := st.buf ++ cs.map Prod.fst, fds := st.fds ++ (cs.flatMap Prod.snd).take cmsgCap }

/-- the length of `buf[filled..]` that `refill_buffer(nd, _)` hands to its `recvmsg`, after `reserve` -/
def request (st : State) (nd : Nat) : Nat := (reserve st nd).cap - st.buf.length

theorem State.read_buf_length (st : State) (cs : List (UInt8 × List Nat)) :
    (st.read cs).buf.length = st.buf.length + cs.length := by
  rw [State.read, List.length_append, List.length_map]

theorem granted_le_req (w : World) (req k : Nat) : granted w req k ≤ req :=
  Nat.le_trans (Nat.min_le_right ..) (Nat.min_le_left ..)

theorem granted_le_rest (w : World) (req k : Nat) : granted w req k ≤ w.rest.length :=
  Nat.le_trans (Nat.min_le_right ..) (Nat.le_trans (Nat.min_le_right ..) (Nat.min_le_right ..))

theorem granted_ne_zero {w : World} {req k : Nat} :
    granted w req k ≠ 0 ↔ k ≠ 0 ∧ req ≠ 0 ∧ w.avail ≠ 0 ∧ w.rest ≠ [] := by
  simp only [ne_eq, granted, Nat.min_eq_zero_iff, List.length_eq_zero_iff, not_or]

theorem recvmsg_zero (w w' : World) (k : Nat) (bs : List UInt8) (fds : List Nat)
    (h : recvmsg w 0 k = (.data bs fds, w')) : bs = [] := by
  simp only [recvmsg, if_true] at h
  split at h
  · cases h
  · split at h
    · cases h
    · cases h; rfl

theorem recvmsg_pos {req : Nat} (hreq : req ≠ 0) (w : World) (k : Nat) :
    recvmsg w req k =
      if granted w req k = 0 then (.eagain, w)
      else (.data ((w.rest.take (granted w req k)).map Prod.fst)
        (((w.rest.take (granted w req k)).flatMap Prod.snd).take cmsgCap), w.read (granted w req k)) := by
  have hg : granted w req k = 0 ↔ min w.avail w.rest.length = 0 ∨ k = 0 := by
    simp only [granted, Nat.min_eq_zero_iff, hreq, false_or, or_comm]
  simp only [recvmsg, if_neg hreq, hg]
  rfl

theorem refill_full {st : State} {nd : Nat} (h : nd ≤ st.buf.length) (w : World) (k : Nat) :
    refill st w nd k = (.readOk, st, w) := by
  simp only [refill, if_pos h]

/-- the zero-length `recvmsg` of the kernel model is never issued -/
theorem refill_request_pos {st : State} {nd : Nat} (h : st.buf.length < nd) : request st nd ≠ 0 :=
  Nat.sub_ne_zero_of_lt (Nat.lt_of_lt_of_le
    (Nat.lt_min.mpr ⟨h, Nat.lt_add_of_pos_right (by decide : 0 < maxGrowth)⟩) (Nat.le_max_right ..))

theorem refill_short {st : State} {nd : Nat} (h : st.buf.length < nd) (w : World) (k : Nat) :
    refill st w nd k =
      if granted w (request st nd) k = 0 then (.timedOut, reserve st nd, w)
      else (.readOk, (reserve st nd).read (w.rest.take (granted w (request st nd) k)),
        w.read (granted w (request st nd) k)) := by
  simp only [refill, if_neg (Nat.not_le.mpr h)]
  rw [show (reserve st nd).cap - st.buf.length = request st nd from rfl, recvmsg_pos (refill_request_pos h)]
  have hl := granted_le_rest w (request st nd) k
  generalize granted w (request st nd) k = m at hl ⊢
  by_cases hm : m = 0
  · simp only [hm, if_true]
  · have : ((w.rest.take m).map Prod.fst).isEmpty = false := by
      rw [List.isEmpty_eq_false_iff, ← List.length_pos_iff, List.length_map, List.length_take, Nat.min_eq_left hl]
      exact Nat.pos_of_ne_zero hm
    simp only [hm, this, if_false]
    rfl

theorem refill_res (st : State) (w : World) (nd k : Nat) :
    (refill st w nd k).1 = .readOk ∨ st.buf.length < nd ∧ refill st w nd k = (.timedOut, reserve st nd, w) := by
  by_cases h : nd ≤ st.buf.length
  · rw [refill_full h]; exact Or.inl rfl
  · rw [refill_short (Nat.not_le.mp h)]
    split
    · exact Or.inr ⟨Nat.not_le.mp h, rfl⟩
    · exact Or.inl rfl

/-- `ConnectionClosed` cannot come out: a 0-byte answer needs a zero-length request (`refill_request_pos`), and the peer
    of the model does not hang up -/
theorem refill_ne_closed (st : State) (w : World) (nd k : Nat) : (refill st w nd k).1 ≠ .closed := by
  rcases refill_res st w nd k with h | ⟨_, h⟩ <;> rw [h] <;> exact nofun

theorem refill_eagain {st : State} {nd : Nat} (h : st.buf.length < nd) (w : World) :
    refill st w nd 0 = (.timedOut, reserve st nd, w) := by
  have : granted w (request st nd) 0 = 0 := Nat.eq_zero_of_le_zero (Nat.min_le_left ..)
  rw [refill_short h, if_pos this]

theorem reserve_idem (st : State) (nd : Nat) : reserve (reserve st nd) nd = reserve st nd :=
  congrArg (State.mk st.buf · st.fds) (Nat.max_eq_left (Nat.le_max_right st.cap _))

theorem refill_after_timeout {st : State} {nd : Nat} (hlt : st.buf.length < nd) (w : World) (k : Nat) :
    refill (reserve st nd) w nd k = refill st w nd k := by
  rw [refill_short hlt, refill_short (st := reserve st nd) hlt, request, reserve_idem]
  rfl

/-- what the peer makes arrive during one `recvmsg` of `read_once` before the kernel answers -/
def arrivals : List Ev → Nat
  | [] => 0
  | .arrive n :: evs => n + arrivals evs
  | .wouldBlock :: _ => 0
  | .deliver _ :: _ => 0

/-- the kernel's answer to that `recvmsg`: the `k` of the first `deliver`, EAGAIN (0) if the call ends before -/
def answer : List Ev → Nat
  | .arrive _ :: evs => answer evs
  | .deliver k :: _ => k
  | _ => 0

theorem arrive_arrive (w : World) (a b : Nat) : (w.arrive a).arrive b = w.arrive (a + b) := by
  simp only [World.arrive, Nat.add_assoc]

theorem arrive_zero (w : World) : w.arrive 0 = w := by
  simp only [World.arrive, Nat.add_zero]

theorem recvWith_eq (st : State) (nd : Nat) : ∀ (evs : List Ev) (w : World),
    recvWith st w nd evs = refill st (w.arrive (arrivals evs)) nd (answer evs)
  | [], w | .wouldBlock :: _, w | .deliver _ :: _, w => by simp only [recvWith, arrivals, answer, arrive_zero]
  | .arrive a :: evs, w => by simp only [recvWith, arrivals, answer, recvWith_eq st nd evs, arrive_arrive]

theorem check_reserve (st : State) (nd : Nat) : check (reserve st nd) = check st := rfl

/-- the `< 16` branch of `check` folds in: below 16 bytes `bytesNeeded` announces 16 -/
theorem check_eq (st : State) : check st =
    match bytesNeeded st.buf with
    | .bytes n => if n ≤ st.buf.length then .whole else .need n
    | .tooLong => .err .tooLong
    | .invalid => .err .invalid := by
  unfold check
  split
  · rename_i h; rw [bytesNeeded_short _ h]; exact (if_neg (Nat.not_le.mpr h)).symm
  · rfl

theorem check_need {st : State} {nd : Nat} (h : check st = .need nd) :
    st.buf.length < nd ∧ bytesNeeded st.buf = .bytes nd := by
  rw [check_eq] at h
  split at h
  · split at h
    · cases h
    · cases h; exact ⟨by omega, by assumption⟩
  · cases h
  · cases h

theorem check_whole {st : State} (h : check st = .whole) :
    ∃ n, bytesNeeded st.buf = .bytes n ∧ n ≤ st.buf.length := by
  rw [check_eq] at h
  split at h
  · split at h
    · exact ⟨_, by assumption, by assumption⟩
    · cases h
  · cases h
  · cases h

theorem check_err {st : State} {e : Res} (h : check st = .err e) :
    e = .tooLong ∧ bytesNeeded st.buf = .tooLong ∨ e = .invalid ∧ bytesNeeded st.buf = .invalid := by
  rw [check_eq] at h
  split at h
  · split at h <;> cases h
  · cases h; exact Or.inl ⟨rfl, by assumption⟩
  · cases h; exact Or.inr ⟨rfl, by assumption⟩

theorem readOnce_whole {st : State} (h : check st = .whole) (w : World) (evs : List Ev) :
    readOnce st w evs = (.readOk, st, w.arrive (arrivals evs)) := by
  obtain ⟨n, hb, hn⟩ := check_whole h
  simp only [readOnce, hb, recvWith_eq, refill_full hn]

theorem readWhole_whole {st : State} (hc : check st = .whole) (w : World) (evs : List Ev) :
    readWhole st w evs = (.readOk, st, w) := by
  cases evs with
  | nil => simp only [readWhole, hc]
  | cons ev evs => cases ev <;> simp only [readWhole, hc]

theorem readWhole_err {st : State} {e : Res} (hc : check st = .err e) (w : World) (evs : List Ev) :
    readWhole st w evs = (e, st, w) := by
  cases evs with
  | nil => simp only [readWhole, hc]
  | cons ev evs => cases ev <;> simp only [readWhole, hc]

theorem readWhole_deliver {st : State} {w : World} {n k : Nat} {evs : List Ev} (hc : check st = .need n)
    (hr : (refill st w n k).1 = .readOk) :
    readWhole st w (.deliver k :: evs) = readWhole (refill st w n k).2.1 (refill st w n k).2.2 evs := by
  rcases hx : refill st w n k with ⟨r, st', w'⟩
  rw [hx] at hr
  cases hr
  simp only [readWhole, hc, hx]

/-- The loop as a proof rule. `P evs` holds while it runs, `evs` being the events still to come: kept by what arrives
    and by a `refill` that returns `Ok`. `Q` holds wherever it stops: on a complete buffer, on a refused announcement,
    or on a timeout, which changes nothing but the reservation. -/
theorem readWhole_rule {P : List Ev → State → World → Prop} {Q : Res × State × World → Prop}
    (arr : ∀ a evs st w, P (.arrive a :: evs) st w → P evs st (w.arrive a))
    (ok : ∀ k evs st w n, check st = .need n → P (.deliver k :: evs) st w → (refill st w n k).1 = .readOk →
      P evs (refill st w n k).2.1 (refill st w n k).2.2)
    (whole : ∀ evs st w, check st = .whole → P evs st w → Q (.readOk, st, w))
    (err : ∀ evs st w e, check st = .err e → P evs st w → Q (e, st, w))
    (timeout : ∀ evs st w n, check st = .need n → P evs st w → Q (.timedOut, reserve st n, w)) :
    ∀ (evs : List Ev) (st : State) (w : World), P evs st w → Q (readWhole st w evs)
  | evs, st, w, h => by
    cases hc : check st with
    | whole => rw [readWhole_whole hc]; exact whole _ _ _ hc h
    | err e => rw [readWhole_err hc]; exact err _ _ _ _ hc h
    | need n =>
      have ht := timeout _ _ _ _ hc h
      match evs with
      | [] | .wouldBlock :: _ => simp only [readWhole, hc, refill_eagain (check_need hc).1]; exact ht
      | .arrive a :: evs =>
        simp only [readWhole, hc]
        exact readWhole_rule arr ok whole err timeout evs _ _ (arr _ _ _ _ h)
      | .deliver k :: evs =>
        rcases refill_res st w n k with hr | ⟨_, hr⟩
        · rw [readWhole_deliver hc hr]
          exact readWhole_rule arr ok whole err timeout evs _ _ (ok _ _ _ _ _ hc h hr)
        · simp only [readWhole, hc, hr]; exact ht

theorem readWhole_post (st : State) (w : World) (evs : List Ev) :
    match (readWhole st w evs).1 with
    | .readOk => check (readWhole st w evs).2.1 = .whole
    | .timedOut => ∃ n, check (readWhole st w evs).2.1 = .need n
    | e => check (readWhole st w evs).2.1 = .err e ∧ (e = .tooLong ∨ e = .invalid) := by
  refine readWhole_rule (P := fun _ _ _ => True)
    (Q := fun x => match x.1 with
      | .readOk => check x.2.1 = .whole
      | .timedOut => ∃ n, check x.2.1 = .need n
      | e => check x.2.1 = .err e ∧ (e = .tooLong ∨ e = .invalid))
    (fun _ _ _ _ _ => trivial) (fun _ _ _ _ _ _ _ _ => trivial) (fun _ _ _ hc _ => hc) ?_ (fun _ _ _ n hc _ => ⟨n, hc⟩)
    evs st w trivial
  intro _ st w e hc _
  rcases check_err hc with ⟨rfl, _⟩ | ⟨rfl, _⟩
  · exact ⟨hc, Or.inl rfl⟩
  · exact ⟨hc, Or.inr rfl⟩

theorem readWhole_ne_closed (st : State) (w : World) (evs : List Ev) : (readWhole st w evs).1 ≠ .closed := by
  intro h
  have := readWhole_post st w evs
  rw [h] at this
  rcases this.2 with h | h <;> cases h

theorem readWhole_reserve {nd : Nat} : ∀ (evs : List Ev) (st : State) (w : World), check st = .need nd →
    readWhole (reserve st nd) w evs = readWhole st w evs
  | [], st, w, hc | .wouldBlock :: _, st, w, hc | .deliver _ :: _, st, w, hc => by
    simp only [readWhole, check_reserve, hc, refill_after_timeout (check_need hc).1]
  | .arrive a :: evs, st, w, hc => by
    simp only [readWhole, check_reserve, hc]; exact readWhole_reserve evs st _ hc

theorem getNext_of_not_readOk {st : State} {w : World} {evs : List Ev} (h : (readWhole st w evs).1 ≠ .readOk) :
    getNext st w evs = readWhole st w evs := by
  unfold getNext
  split
  · rename_i heq; rw [heq] at h; exact absurd rfl h
  · rfl

theorem getNext_of_readOk {st st' : State} {w w' : World} {evs : List Ev}
    (h : readWhole st w evs = (.readOk, st', w')) (hdec : (decodeMessage st'.buf).isSome = true) :
    getNext st w evs = (.msg st'.buf st'.fds, State.empty, w') := by
  obtain ⟨⟨fx, fs, body⟩, hm⟩ := Option.isSome_iff_exists.mp hdec
  obtain ⟨_, _, hx, _⟩ := decodeMessage_eq_some.1 hm
  simp only [getNext, h, hx, hm]

theorem getNext_world (st : State) (w : World) (evs : List Ev) :
    (getNext st w evs).2.2 = (readWhole st w evs).2.2 := by
  unfold getNext
  split
  · split
    · simp only [*]
    · split <;> simp only [*]
  · rfl

theorem readWhole_nil_world (st : State) (w : World) : (readWhole st w []).2.2 = w := by
  rw [readWhole]
  split
  · rfl
  · rfl
  · rw [refill_eagain (check_need ‹_›).1]

theorem step_err (c : Call) (st : State) (w : World) (evs : List Ev) :
    (bytesNeeded st.buf = .tooLong → step c st w evs = (.tooLong, st, w)) ∧
    (bytesNeeded st.buf = .invalid → step c st w evs = (.invalid, st, w)) := by
  constructor <;> intro hb <;> have hc := check_eq st <;> rw [hb] at hc <;> cases c <;>
    simp only [step, getNext, readWhole_err hc, readMore, hc, readOnce, hb]

theorem step_ne_closed (c : Call) (st : State) (w : World) (evs : List Ev) :
    (step c st w evs).1 ≠ .closed := by
  have hro : (readOnce st w evs).1 ≠ .closed := by
    unfold readOnce
    split
    · rw [recvWith_eq]; exact refill_ne_closed _ _ _ _
    · exact nofun
    · exact nofun
  cases c with
  | readOnce => exact hro
  | readMore =>
    simp only [step, readMore]
    split
    · exact nofun
    · rcases check_err ‹_› with ⟨rfl, _⟩ | ⟨rfl, _⟩ <;> exact nofun
    · exact hro
  | getNext =>
    show (getNext st w evs).1 ≠ .closed
    unfold getNext
    split
    · split
      · exact nofun
      · split <;> exact nofun
    · exact readWhole_ne_closed st w evs

theorem step_reserve {st : State} {nd : Nat} (hc : check st = .need nd) (c : Call) (w : World)
    (evs : List Ev) : step c (reserve st nd) w evs = step c st w evs := by
  obtain ⟨hlt, hb⟩ := check_need hc
  have hro : readOnce (reserve st nd) w evs = readOnce st w evs := by
    simp only [readOnce, show (reserve st nd).buf = st.buf from rfl, hb, recvWith_eq, refill_after_timeout hlt]
  cases c with
  | getNext => simp only [step, getNext, readWhole_reserve evs st w hc]
  | readOnce => exact hro
  | readMore => simp only [step, readMore, check_reserve, hc, hro]

theorem step_nil_timedOut {st : State} {nd : Nat} (hc : check st = .need nd) (c : Call) (w : World) :
    step c st w [] = (.timedOut, reserve st nd, w) := by
  obtain ⟨hlt, hb⟩ := check_need hc
  cases c with
  | getNext => simp only [step, getNext, readWhole, hc, refill_eagain hlt]
  | readOnce => simp only [step, readOnce, hb, recvWith, refill_eagain hlt]
  | readMore => simp only [step, readMore, hc, readOnce, hb, recvWith, refill_eagain hlt]

end Rustbus.Recv
