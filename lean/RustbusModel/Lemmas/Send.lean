import RustbusModel.Model.Send
/-!
C10: the invariant tying the sender's `bytes_sent` to what the peer has (of one message, sent on a wire that was empty when
the send started), preserved by every `write_once` outcome and by suspend/resume. A history from a state with the invariant never reaches the slice panic, and its final context is fixed
by the counts it reported (`run_inv`): the message and the serial stay, the counter moves by their sum.
-/
namespace Rustbus.Send

/-- the invariant of a send in progress: the peer has exactly the first `bytes_sent` bytes of header ++ body, and the
    descriptors have been delivered (once, with the very first byte) iff at least one byte was accepted. It speaks of ONE
    message sent on a wire that was empty when it started (`inv_init`; hence the transfer at position 0), as
    `send_message` starts it: `run_inv` and `write_inv`, stated from a state with `Inv`, cover the states such a send can
    be in, not a send onto a wire that already holds bytes -/
structure Inv (m : Msg) (st : State) (w : Wire) : Prop where
  le : st.bytesSent ≤ m.total
  bytes : w.bytes = (m.hdr ++ m.body).take st.bytesSent
  transfers : w.transfers = if st.bytesSent = 0 ∨ m.fds = [] then [] else [(0, m.fds)]

theorem inv_init (m : Msg) (serial : Nat) : Inv m ⟨0, serial⟩ Wire.empty :=
  ⟨Nat.zero_le _, rfl, by simp [Wire.empty]⟩

theorem Inv.complete_iff {m : Msg} {st : State} {w : Wire} (h : Inv m st w) :
    st.bytesSent = m.total ↔ w.bytes = m.hdr ++ m.body := by
  rw [h.bytes]
  constructor
  · intro hb
    exact List.take_of_length_le (by rw [hb, List.length_append]; exact Nat.le_refl _)
  · intro hb
    have hl := congrArg List.length hb
    rw [List.length_take, List.length_append] at hl
    have hle := h.le
    unfold Msg.total at hle ⊢
    omega

theorem Inv.transfers_pos {m : Msg} {st : State} {w : Wire} (h : Inv m st w) (hp : 0 < st.bytesSent) :
    w.transfers = if m.fds = [] then [] else [(0, m.fds)] := by
  rw [h.transfers]
  simp only [Nat.ne_of_gt hp, false_or]

/-- the two slices of the iovec, re-derived from `bytes_sent`, are together the unsent rest of header ++ body -/
theorem offer_of_le {m : Msg} {st : State} (h : st.bytesSent ≤ m.total) :
    ∃ o, offer m st = some o ∧
      o.hdrSlice ++ o.bodySlice = (m.hdr ++ m.body).drop st.bytesSent ∧
      o.fds = (if st.bytesSent = 0 then m.fds else []) ∧
      o.hdrOff = min st.bytesSent m.hdr.length ∧
      o.bodyOff = st.bytesSent - m.hdr.length ∧
      o.len = m.total - st.bytesSent := by
  -- beyond the header's end both offsets leave nothing of it
  have ⟨hs, hd⟩ : st.bytesSent - min st.bytesSent m.hdr.length = st.bytesSent - m.hdr.length ∧
      m.hdr.drop (min st.bytesSent m.hdr.length) = m.hdr.drop st.bytesSent := by
    rcases Nat.le_total st.bytesSent m.hdr.length with hc | hc
    · rw [Nat.min_eq_left hc, Nat.sub_self, Nat.sub_eq_zero_of_le hc]; exact ⟨rfl, rfl⟩
    · rw [Nat.min_eq_right hc, List.drop_length, List.drop_eq_nil_of_le hc]; exact ⟨rfl, rfl⟩
  have hcat : m.hdr.drop (min st.bytesSent m.hdr.length) ++ m.body.drop (st.bytesSent - m.hdr.length) =
      (m.hdr ++ m.body).drop st.bytesSent := by rw [hd, List.drop_append]
  refine ⟨_, by rw [offer, hs, if_pos (Nat.sub_le_iff_le_add'.2 h)], hcat, rfl, rfl, rfl, ?_⟩
  rw [Offer.len, ← List.length_append, hcat, List.length_drop, List.length_append]
  rfl

/-- what `write_once` reports, given the kernel's answer and the length of what was offered -/
def resOf (offered : Nat) : Ev → Res
  | .accept k => .ok (min k offered)
  | .eagain => .wouldBlock
  | .fail => .error

theorem resOf_count_le (offered : Nat) (ev : Ev) : (resOf offered ev).count ≤ offered := by
  cases ev <;> simp only [resOf, Res.count] <;> omega

/-- the assumed `sendmsg` in the form the proofs use, all three answers at once -/
theorem kernel_spec (o : Offer) (w : Wire) (ev : Ev) :
    (kernel o w ev).2 = resOf o.len ev ∧
    (kernel o w ev).1.bytes = w.bytes ++ (o.hdrSlice ++ o.bodySlice).take (resOf o.len ev).count ∧
    (kernel o w ev).1.transfers =
      (if (resOf o.len ev).count = 0 ∨ o.fds = [] then w.transfers else w.transfers ++ [(w.bytes.length, o.fds)]) ∧
    ((resOf o.len ev).count = 0 → (kernel o w ev).1 = w) := by
  cases ev with
  | eagain | fail => simp [kernel, resOf, Res.count]
  | accept k =>
    by_cases hn : min k o.len = 0
    · simp [kernel, resOf, Res.count, hn]
    · simp [kernel, resOf, Res.count, hn, Wire.bytes]

theorem writeOnce_eq (m : Msg) (st : State) (w : Wire) (ev : Ev) :
    writeOnce m st w ev = (offer m st).map fun o =>
      (⟨st.bytesSent + (kernel o w ev).2.count, st.serial⟩, (kernel o w ev).1, (kernel o w ev).2) := by
  unfold writeOnce
  cases offer m st with
  | none => rfl
  | some o =>
    simp only [Option.map_some]
    cases kernel o w ev with
    | mk w' r => cases r <;> rfl

theorem writeOnce_inv {m : Msg} {st : State} {w : Wire} (ev : Ev) (h : Inv m st w) :
    ∃ w', writeOnce m st w ev =
        some (⟨st.bytesSent + (resOf (m.total - st.bytesSent) ev).count, st.serial⟩, w',
              resOf (m.total - st.bytesSent) ev) ∧
      Inv m ⟨st.bytesSent + (resOf (m.total - st.bytesSent) ev).count, st.serial⟩ w' ∧
      ((resOf (m.total - st.bytesSent) ev).count = 0 → w' = w) := by
  obtain ⟨o, ho, hcat, hfds, _, _, hlen⟩ := offer_of_le h.le
  obtain ⟨hr, hb, ht, h0⟩ := kernel_spec o w ev
  rw [hlen] at hr hb ht h0
  have hc := resOf_count_le (m.total - st.bytesSent) ev
  generalize resOf (m.total - st.bytesSent) ev = r at *
  refine ⟨(kernel o w ev).1, by rw [writeOnce_eq, ho, Option.map_some, hr], ⟨?_, ?_, ?_⟩, h0⟩
  · exact Nat.add_le_of_le_sub' h.le hc
  · rw [hb, h.bytes, hcat, List.take_add]
  · rw [ht, hfds, h.transfers, h.bytes]
    by_cases hs : st.bytesSent = 0 <;> simp [hs]

theorem sumCounts_cons (r : Res) (rs : List Res) : sumCounts (r :: rs) = r.count + sumCounts rs := rfl

theorem sumCounts_append (a b : List Res) : sumCounts (a ++ b) = sumCounts a + sumCounts b := by
  simp only [sumCounts, List.map_append, List.sum_append]

theorem step_inv {m : Msg} {st : State} {w : Wire} (s : Step) (h : Inv m st w) :
    ∃ w' r, step ⟨m, st⟩ w s = some (⟨m, ⟨st.bytesSent + sumCounts r, st.serial⟩⟩, w', r) ∧
      Inv m ⟨st.bytesSent + sumCounts r, st.serial⟩ w' := by
  cases s with
  | call ev =>
    obtain ⟨w', h1, h2, _⟩ := writeOnce_inv ev h
    exact ⟨w', [_], by simp only [step, h1]; rfl, h2⟩
  | suspend => exact ⟨w, [], rfl, h⟩

theorem run_inv {m : Msg} (steps : List Step) : ∀ {st : State} {w : Wire}, Inv m st w →
    ∃ w' rs, run ⟨m, st⟩ w steps = some (⟨m, ⟨st.bytesSent + sumCounts rs, st.serial⟩⟩, w', rs) ∧
      Inv m ⟨st.bytesSent + sumCounts rs, st.serial⟩ w' := by
  induction steps with
  | nil => exact fun {_ w} h => ⟨w, [], rfl, h⟩
  | cons s ss ih =>
    intro st w h
    obtain ⟨w1, r, h1, hi⟩ := step_inv s h
    obtain ⟨w2, rs, h2, hi2⟩ := ih hi
    rw [Nat.add_assoc, ← sumCounts_append] at h2 hi2
    exact ⟨w2, r ++ rs, by simp only [run, h1, h2], hi2⟩

theorem step_silent {m : Msg} {st : State} {w : Wire} {ev : Ev} (h : Inv m st w)
    (hz : (resOf (m.total - st.bytesSent) ev).count = 0) :
    step ⟨m, st⟩ w (.call ev) = some (⟨m, st⟩, w, [resOf (m.total - st.bytesSent) ev]) := by
  obtain ⟨w', h1, -, h0⟩ := writeOnce_inv ev h
  cases h0 hz
  simp only [step, h1, hz]
  rfl

theorem run_start (m : Msg) (serial : Nat) (steps : List Step) :
    ∃ w rs, run (Ctx.start m serial) Wire.empty steps = some (⟨m, ⟨sumCounts rs, serial⟩⟩, w, rs) ∧
      Inv m ⟨sumCounts rs, serial⟩ w := by
  simpa only [Ctx.start, Nat.zero_add] using run_inv steps (inv_init m serial)

theorem run_append (a b : List Step) : ∀ (c : Ctx) (w : Wire),
    run c w (a ++ b) =
      match run c w a with
      | none => none
      | some (c', w', rs) =>
        match run c' w' b with
        | none => none
        | some (c'', w'', rs') => some (c'', w'', rs ++ rs') := by
  induction a with
  | nil => intro c w; simp only [List.nil_append, run]; split <;> simp_all
  | cons s ss ih =>
    intro c w
    simp only [List.cons_append, run]
    cases step c w s with
    | none => rfl
    | some p =>
      simp only [ih]
      cases run p.1 p.2.1 ss with
      | none => rfl
      | some q => simp only; cases run q.1 q.2.1 b <;> simp

theorem run_suspend (c : Ctx) (w : Wire) (b : List Step) : run c w (.suspend :: b) = run c w b := by
  simp only [run, step, resume, intoProgress]
  cases run c w b <;> simp

theorem run_insert_silent {m : Msg} {st : State} {w : Wire} {ev : Ev} {pre post : List Step} (h : Inv m st w)
    (hz : ∀ d, (resOf d ev).count = 0) {c' : Ctx} {w' : Wire} {rs : List Res}
    (hr : run ⟨m, st⟩ w (pre ++ post) = some (c', w', rs)) :
    ∃ rs', run ⟨m, st⟩ w (pre ++ .call ev :: post) = some (c', w', rs') ∧ sumCounts rs' = sumCounts rs := by
  obtain ⟨w1, rs1, h1, hi⟩ := run_inv pre h
  rw [run_append, h1] at hr ⊢
  simp only [run, step_silent hi (hz _)]
  cases hp : run ⟨m, ⟨st.bytesSent + sumCounts rs1, st.serial⟩⟩ w1 post with
  | none => simp [hp] at hr
  | some q =>
    simp only [hp, Option.some.injEq, Prod.mk.injEq] at hr ⊢
    obtain ⟨rfl, rfl, rfl⟩ := hr
    refine ⟨_, ⟨rfl, rfl, rfl⟩, ?_⟩
    simp only [sumCounts_append, List.singleton_append, sumCounts_cons, hz, Nat.zero_add]

theorem sendMessage_started {conn conn' : Serial.Conn} {hm : Header.Msg} {fds : List Nat} {preset : Option Nat}
    {ctx : Ctx} (h : sendMessage conn hm fds preset = .started ctx conn') :
    ∃ s hdr, Serial.sendSerial conn preset = some (s, conn') ∧ Header.marshalHeader hm s = some hdr ∧
      ctx = ⟨⟨hdr, hm.body, fds⟩, ⟨0, s⟩⟩ := by
  unfold sendMessage at h
  split at h
  · cases h
  · next s c1 hs =>
    split at h
    · cases h
    · next hdr hh => cases h; exact ⟨s, hdr, hs, hh, rfl⟩

end Rustbus.Send
