import RustbusModel.Lemmas.SigPrint
/-!
`parseNext` / `parseStruct` / `parseDictEntry` / `parseAll` against the printed form: a printed
well-formed type is parsed back (recursion on the type, with enough fuel), and whatever is parsed is
the printed form of a well-formed type (induction on the fuel).
-/
namespace Rustbus.Sig
open Rustbus.Spec.Sig Ty

theorem parseNext_other {f : Nat} {d : Bool} {c : Char} {rest : List Char}
    (h1 : c ≠ '(') (h2 : c ≠ ')') (h3 : c ≠ 'a') :
    parseNext (f + 1) d (c :: rest) =
      match Base.ofChar c with
      | some b => some (some (.base b), rest)
      | none => if c = 'v' then some (some .variant, rest) else none := by
  simp [parseNext, h1, h2, h3]; rfl

theorem parseNext_base (f : Nat) (d : Bool) (b : Base) (rest : List Char) :
    parseNext (f + 1) d (b.char :: rest) = some (some (.base b), rest) := by
  obtain ⟨h1, h2, h3, -⟩ := base_char_facts b
  rw [parseNext_other h1 h2 h3, ofChar_char]

theorem parseNext_variant (f : Nat) (d : Bool) (rest : List Char) :
    parseNext (f + 1) d ('v' :: rest) = some (some .variant, rest) := by
  rw [parseNext_other (by decide) (by decide) (by decide), ofChar_nonbase.2.2.2.2.2]; rfl

theorem parseNext_close (f : Nat) (d : Bool) (rest : List Char) :
    parseNext (f + 1) d (')' :: rest) = if d then some (none, rest) else none := by
  simp [parseNext]

theorem parseNext_open (f : Nat) (d : Bool) (rest : List Char) :
    parseNext (f + 1) d ('(' :: rest) =
      (parseStruct f rest).bind fun p =>
        if p.1.isEmpty then none else some (some (.struct p.1), p.2) := by
  simp only [parseNext, if_true]
  cases parseStruct f rest <;> rfl

theorem parseNext_arr (f : Nat) (d : Bool) (n : Char) (rest : List Char) :
    parseNext (f + 1) d ('a' :: n :: rest) =
      if !isTokenChar n then none
      else if n = '{' then parseDictEntry f rest
      else
        match parseNext f false (n :: rest) with
        | some (some e, r) => some (some (.array e), r)
        | _ => none := by
  simp [parseNext]; rfl

mutual
theorem parseNext_complete : (t : Ty) → t.wf = true → ∀ (fuel : Nat) (delim : Bool) (rest : List Char),
    (toStr t).length < fuel → parseNext fuel delim (toStr t ++ rest) = some (some t, rest)
  | .base b, _, fuel, d, rest, hf => by
    obtain ⟨f, rfl⟩ := exists_succ hf
    exact parseNext_base ..
  | .variant, _, fuel, d, rest, hf => by
    obtain ⟨f, rfl⟩ := exists_succ hf
    exact parseNext_variant ..
  | .array e, hw, fuel, d, rest, hf => by
    obtain ⟨f, rfl⟩ := exists_succ hf
    obtain ⟨c, tl, hc, hs⟩ := toStr_start e
    have ih := parseNext_complete e hw f false rest (Nat.lt_of_succ_lt_succ hf)
    obtain ⟨h1, h2, -⟩ := isStart_facts hs
    simp only [toStr, List.cons_append, hc] at ih ⊢
    rw [parseNext_arr, ih]
    simp [h1, h2]
  | .dict k v, hw, fuel, d, rest, hf => by
    obtain ⟨f, rfl⟩ := exists_succ hf
    simp only [toStr, List.length_cons, List.length_append, List.length_nil] at hf
    obtain ⟨f, rfl⟩ := exists_succ (show 0 < f by omega)
    have ih := parseNext_complete v hw f false ('}' :: rest) (by omega)
    simp only [toStr, List.cons_append, List.append_assoc, List.nil_append]
    rw [parseNext_arr]
    simp [isTokenChar, parseDictEntry, ofChar_char, ih]
  | .struct fs, hw, fuel, d, rest, hf => by
    obtain ⟨f, rfl⟩ := exists_succ hf
    simp only [toStr, List.length_cons, List.length_append, List.length_nil] at hf
    simp only [wf, Bool.and_eq_true] at hw
    simp only [toStr, List.cons_append, List.append_assoc, List.nil_append]
    rw [parseNext_open, parseStruct_complete fs hw.2 f rest (by omega)]
    simpa using hw.1
theorem parseStruct_complete : (ts : List Ty) → wfList ts = true → ∀ (fuel : Nat) (rest : List Char),
    (listToStr ts).length + 1 < fuel →
    parseStruct fuel (listToStr ts ++ ')' :: rest) = some (ts, rest)
  | [], _, fuel, rest, hf => by
    obtain ⟨f, rfl⟩ := exists_succ hf
    obtain ⟨f, rfl⟩ := exists_succ (Nat.lt_of_succ_lt_succ hf)
    simp [listToStr, parseStruct, parseNext_close]
  | t :: ts, hw, fuel, rest, hf => by
    obtain ⟨f, rfl⟩ := exists_succ hf
    simp only [wfList, Bool.and_eq_true] at hw
    simp only [listToStr, List.length_append] at hf
    have hp := toStr_length_pos t
    simp only [listToStr, List.append_assoc, parseStruct,
      parseNext_complete t hw.1 f true _ (by omega), parseStruct_complete ts hw.2 f rest (by omega)]
end

theorem parseNext_sound (f : Nat) :
    (∀ {d s o r}, parseNext f d s = some (o, r) →
      match o with
      | some t => s = toStr t ++ r ∧ t.wf = true
      | none => (d = true ∧ s = ')' :: r) ∨ (d = false ∧ s = [] ∧ r = [])) ∧
    (∀ {s ts r}, parseStruct f s = some (ts, r) → s = listToStr ts ++ ')' :: r ∧ wfList ts = true) ∧
    (∀ {s o r}, parseDictEntry f s = some (o, r) →
      ∃ k v, o = some (.dict k v) ∧ s = k.char :: (toStr v ++ '}' :: r) ∧ v.wf = true) := by
  induction f with
  | zero => simp [parseNext, parseStruct, parseDictEntry]
  | succ f ih =>
    obtain ⟨ihN, ihS, ihD⟩ := ih
    refine ⟨?_, ?_, ?_⟩
    · intro d s o r h
      match s with
      | [] =>
        simp [parseNext] at h
        obtain ⟨hd, rfl, rfl⟩ := h
        simp [hd]
      | c :: rest =>
        by_cases h1 : c = '('
        · subst h1
          rw [parseNext_open, Option.bind_eq_some_iff] at h
          obtain ⟨⟨ts, r'⟩, hs, h⟩ := h
          split at h
          · cases h
          next hne =>
            cases h
            obtain ⟨rfl, hw⟩ := ihS hs
            simpa [toStr, wf, hw] using hne
        by_cases h2 : c = ')'
        · subst h2
          simp [parseNext_close] at h
          obtain ⟨hd, rfl, rfl⟩ := h
          simp [hd]
        by_cases h3 : c = 'a'
        · subst h3
          match rest with
          | [] => simp [parseNext] at h
          | n :: rest2 =>
            rw [parseNext_arr] at h
            split at h
            · cases h
            split at h
            next hn =>
              subst hn
              obtain ⟨k, v, rfl, rfl, hv⟩ := ihD h
              simp [toStr, wf, hv]
            split at h
            next e r' hp =>
              cases h
              simpa [toStr, wf] using ihN hp
            · cases h
        · rw [parseNext_other h1 h2 h3] at h
          split at h
          next b hb =>
            cases h
            simp [toStr, wf, ofChar_eq_some hb]
          · split at h
            next hv =>
              cases h
              simp [toStr, wf, hv]
            · cases h
    · intro s ts r h
      rw [parseStruct] at h
      split at h
      next t r' hp =>
        split at h
        next ts' r'' hq =>
          cases h
          obtain ⟨rfl, ht⟩ := ihN hp
          obtain ⟨rfl, hts⟩ := ihS hq
          simp [listToStr, wfList, ht, hts]
        · cases h
      next r' hp =>
        cases h
        have hN := ihN hp
        simp at hN
        simp [listToStr, wfList, hN]
      · cases h
    · intro s o r h
      match s with
      | [] => simp [parseDictEntry] at h
      | k :: rest =>
        rw [parseDictEntry] at h
        split at h
        · cases h
        next kb hb =>
          split at h
          next v r' hp =>
            obtain ⟨hs, hv⟩ := ihN hp
            split at h
            next r'' =>
              cases h
              exact ⟨kb, v, rfl, by rw [ofChar_eq_some hb, hs], hv⟩
            · cases h
          · cases h

theorem parseAll_sound : ∀ {fuel : Nat} {s : List Char} {ts : List Ty},
    parseAll fuel s = some ts → s = listToStr ts ∧ wfList ts = true
  | 0, _, _, h => by simp [parseAll] at h
  | f + 1, s, ts, h => by
    rw [parseAll] at h
    split at h
    next t r hp =>
      split at h
      next ts' hq =>
        cases h
        obtain ⟨rfl, ht⟩ := (parseNext_sound _).1 hp
        obtain ⟨rfl, hts⟩ := parseAll_sound hq
        simp [listToStr, wfList, ht, hts]
      · cases h
    next r hp =>
      cases h
      have hN := (parseNext_sound _).1 hp
      simp at hN
      simp [listToStr, wfList, hN]
    · cases h

theorem parseAll_complete : (ts : List Ty) → wfList ts = true → ∀ fuel,
    (listToStr ts).length < fuel → parseAll fuel (listToStr ts) = some ts
  | [], _, fuel, hf => by
    obtain ⟨f, rfl⟩ := exists_succ hf
    simp [parseAll, listToStr, parseNext]
  | t :: ts, hw, fuel, hf => by
    obtain ⟨f, rfl⟩ := exists_succ hf
    simp only [wfList, Bool.and_eq_true] at hw
    simp only [listToStr, List.length_append] at hf
    have hp := toStr_length_pos t
    rw [listToStr, parseAll, parseNext_complete t hw.1 _ false _ (by rw [List.length_append]; omega)]
    simp only [parseAll_complete ts hw.2 f (by omega)]

theorem parseDescription_iff (s : List Char) (ts : List Ty) :
    parseDescription s = some ts ↔ Denotes s ts := by
  simp only [parseDescription, denotes_iff]
  split
  next hl =>
    simp only [reduceCtorEq, false_iff, not_and]
    omega
  next hl =>
    constructor
    · intro h
      split at h
      next ts' hp =>
        split at h
        next hd =>
          cases h
          exact ⟨by omega, (parseAll_sound hp).1, (parseAll_sound hp).2, hd⟩
        · cases h
      · cases h
    · rintro ⟨-, rfl, hw, hd⟩
      rw [parseAll_complete ts hw _ (by omega)]
      simp only [hd, if_true]

end Rustbus.Sig
