import RustbusModel.Spec.Header
import RustbusModel.Lemmas.Wire
/-!
One header field: `decodeField` is the generic decoder `dec` at the element type `(yv)` of the field array
(`dec_elem`) followed by the classification `entryField`, the partial inverse of `Field.entry`
(`entryField_eq_some`). Then the loop `decodeFields` against `encList`, the body of the field array (`enc_fieldArray`).
-/
namespace Rustbus.Header
open Rustbus.Bytes Rustbus.Wire Rustbus.Spec.Wire Rustbus.Spec.Header

abbrev elemTy : Ty := .struct [.base .byte, .variant]

theorem dec_elem (bo : ByteOrder) (buf : List UInt8) (d off lim : Nat) :
    dec bo buf none (d + 2) elemTy off lim =
      match skipPad buf off lim 8 with
      | none => none
      | some o =>
        match readNum .le buf o lim 1 with
        | none => none
        | some code =>
          match readSig buf (o + 1) lim with
          | none => none
          | some (sg, o2) =>
            match Sig.parseDescription (latin1 sg) with
            | some [t] =>
              match dec bo buf none d t o2 lim with
              | none => none
              | some (x, o3) => some (.struct [.num code, .variant t x], o3)
            | _ => none := by
  rw [dec_struct, if_neg (by simp)]
  cases hp : skipPad buf off lim 8 with
  | none => rfl
  | some o =>
    obtain ⟨-, hol, hlb, -⟩ := skipPad_iff.1 hp
    -- the code is a byte: no padding, and whatever one byte holds is in range
    have hp1 : skipPad buf o lim Base.byte.align = some o := skipPad_of_aligned (Nat.mod_one o) hol hlb
    dsimp only
    rw [decFields_cons, dec_base, decBase_fixed_eq (b := .byte) (k := 1) rfl, hp1]
    dsimp only
    rw [readNum_one bo]
    cases hn : readNum .le buf o lim 1 with
    | none => rfl
    | some code =>
      dsimp only
      rw [if_pos (show code < Base.byte.bound from (readNum_iff.1 hn).2.2.1)]
      dsimp only
      rw [decFields_cons, dec_variant, readSig, readNum_one bo]
      cases readNum .le buf (o + 1) lim 1 with
      | none => rfl
      | some len =>
        dsimp only
        by_cases hle : o + 1 + len + 2 ≤ lim
        · rw [if_pos hle, if_pos hle]
          by_cases hz : slice buf (o + 1 + 1 + len) 1 = [0]
          · rw [if_pos hz, if_pos hz]
            dsimp only
            generalize Sig.parseDescription (latin1 (slice buf (o + 1 + 1) len)) = p
            match p with
            | none | some [] | some (_ :: _ :: _) => rfl
            | some [t] =>
              dsimp only
              cases dec bo buf none d t (o + 1 + len + 2) lim with
              | none => rfl
              | some r =>
                dsimp only
                rw [decFields_nil]
          · rw [if_neg hz, if_neg hz]
        · rw [if_neg hle, if_neg hle]

def Field.entry : Field → Entry
  | .path s => (1, .base .objpath, .str s)
  | .interface s => (2, .base .string, .str s)
  | .member s => (3, .base .string, .str s)
  | .errorName s => (4, .base .string, .str s)
  | .replySerial n => (5, .base .u32, .num n)
  | .destination s => (6, .base .string, .str s)
  | .sender s => (7, .base .string, .str s)
  | .signature s => (8, .base .signature, .str s)
  | .unixFds n => (9, .base .u32, .num n)

/-- what `entryField` demands of a known field beyond the content rule of its value type -/
def Field.ok : Field → Prop
  | .interface s => nameOk 2 s = true
  | .member s => nameOk 3 s = true
  | .errorName s => nameOk 4 s = true
  | .destination s => nameOk 6 s = true
  | .sender s => nameOk 7 s = true
  | .replySerial n => n ≠ 0
  | _ => True

theorem entryField_eq_some {c : Nat} {t : Ty} {x : Val} {r : Option Field} :
    entryField (c, t, x) = some r ↔
      match r with
      | some f => (c, t, x) = f.entry ∧ f.ok
      | none => 10 ≤ c ∧ depthOf t x ≤ maxDepth := by
  constructor
  · intro h
    unfold entryField at h
    -- the ten arms of `entryField` itself (`h_1` … `h_9` the codes 1 … 9, `h_10` the rest): a case analysis of
    -- `t` and `x` would visit every pair of constructors, each at the price of the whole match
    split at h
    case h_1 | h_8 | h_9 =>
      cases h
      exact ⟨‹_›, trivial⟩
    case h_2 | h_3 | h_4 | h_6 | h_7 =>
      obtain ⟨hok, h⟩ := Option.ite_none_right_eq_some.1 h
      cases h
      exact ⟨‹_›, hok⟩
    case h_5 =>
      obtain ⟨hok, h⟩ := Option.ite_none_left_eq_some.1 h
      cases h
      exact ⟨‹_›, hok⟩
    case h_10 =>
      obtain ⟨hok, h⟩ := Option.ite_none_right_eq_some.1 h
      cases h
      cases ‹(c, t, x) = _›
      exact hok
  · intro h
    match r with
    | some f =>
      rw [h.1]
      cases f
      case replySerial => exact if_neg h.2
      case path | signature | unixFds => rfl
      all_goals exact if_pos h.2
    | none =>
      obtain ⟨n, rfl⟩ := Nat.exists_eq_add_of_le' h.1
      exact if_pos h

theorem readStr_some {bo : ByteOrder} {buf : List UInt8} {off lim : Nat} {s : List UInt8} {o : Nat}
    (h : readStr bo buf off lim = some (s, o)) : decBase bo buf none .string off lim = some (.str s, o) := by
  unfold readStr at h
  split at h
  · cases h; assumption
  · cases h

theorem decodeField_iff {bo : ByteOrder} {buf : List UInt8} {off lim : Nat} {f? : Option Field} {o' : Nat} :
    decodeField bo buf off lim = some (f?, o') ↔
      ∃ e : Entry, dec bo buf none (maxDepth + 2) elemTy off lim = some (entryVal e, o') ∧
        entryField e = some f? := by
  rw [dec_elem]
  unfold decodeField
  cases skipPad buf off lim 8 with
  | none => simp
  | some o =>
    -- `-zeta` keeps the closure `strField` shared by five codes (and the term small)
    dsimp -zeta only
    cases readNum .le buf o lim 1 with
    | none => simp
    | some code =>
      cases readSig buf (o + 1) lim with
      | none => simp
      | some r =>
        obtain ⟨sg, o2⟩ := r
        dsimp -zeta only
        generalize Sig.parseDescription (latin1 sg) = p
        match p with
        | none | some [] | some (_ :: _ :: _) => simp
        | some [t] =>
          dsimp -zeta only
          -- the entry on the right can only be `(code, t, x)` for the `x` that `dec` returns
          have hrhs : (∃ e : Entry, (match dec bo buf none maxDepth t o2 lim with
                | none => none
                | some (x, o3) => some (Val.struct [.num code, .variant t x], o3)) = some (entryVal e, o') ∧
                entryField e = some f?) ↔
              ∃ x, dec bo buf none maxDepth t o2 lim = some (x, o') ∧ entryField (code, t, x) = some f? := by
            constructor
            · rintro ⟨⟨c, t', x⟩, h, he⟩
              split at h
              · cases h
              · cases h; exact ⟨_, ‹_›, he⟩
            · rintro ⟨x, hd, he⟩
              exact ⟨(code, t, x), by rw [hd]; rfl, he⟩
          refine Iff.trans ?_ hrhs.symm
          constructor
          · -- along the arms of `decodeField`: `h_1` … `h_10` are the codes 0 … 9, `h_11` the unknown ones
            intro h
            extract_lets strField at h
            have hstr (mk : List UInt8 → Field) (h : strField mk = some (f?, o')) :
                ∃ s, t = .base .string ∧ decBase bo buf none .string o2 lim = some (.str s, o') ∧
                  nameOk code s = true ∧ f? = some (mk s) := by
              simp only [strField] at h
              split at h
              · split at h
                · split at h
                  · cases h; exact ⟨_, rfl, readStr_some ‹_›, ‹_›, rfl⟩
                  · cases h
                · cases h
              · cases h
            split at h
            case h_1 => cases h
            case h_2 | h_9 | h_10 =>
              split at h
              · split at h
                · cases h; exact ⟨_, dec_base.trans ‹_›, rfl⟩
                · cases h
              · cases h
            case h_6 =>
              split at h
              · split at h
                · split at h
                  · cases h
                  · cases h; exact ⟨_, dec_base.trans ‹_›, entryField_eq_some.2 ⟨rfl, ‹_›⟩⟩
                · cases h
              · cases h
            case h_3 | h_4 | h_5 | h_7 | h_8 =>
              obtain ⟨s, rfl, hd, hn, rfl⟩ := hstr _ h
              exact ⟨_, dec_base.trans hd, entryField_eq_some.2 ⟨rfl, hn⟩⟩
            case h_11 =>
              split at h
              · cases h
                rename_i hd
                obtain ⟨_, henc⟩ := dec_iff.1 hd
                -- each excluded code lifts the bound by one (`omega` is slow over ten disequalities)
                have up {n : Nat} (h : n ≤ code) (hn : code ≠ n) : n + 1 ≤ code := Nat.lt_of_le_of_ne h hn.symm
                exact ⟨_, hd, entryField_eq_some.2 ⟨up (up (up (up (up (up (up (up (up (up code.zero_le ‹_›) ‹_›) ‹_›)
                  ‹_›) ‹_›) ‹_›) ‹_›) ‹_›) ‹_›) ‹_›, henc.depth⟩⟩
              · cases h
          · -- along the arms of `entryField`
            rintro ⟨x, hd, he⟩
            match f? with
            | some f =>
              obtain ⟨hf, hok⟩ := entryField_eq_some.1 he
              cases f <;> cases hf <;> rw [dec_base] at hd
              case replySerial => rw [hd]; exact if_neg hok
              case path | signature | unixFds => rw [hd]; rfl
              all_goals
                simp only [readStr, hd]
                exact if_pos hok
            | none =>
              obtain ⟨n, rfl⟩ := Nat.exists_eq_add_of_le' (entryField_eq_some.1 he).1
              simp [hd]

theorem entryVal_depth {e : Entry} {r : Option Field} (h : entryField e = some r) :
    depthOf elemTy (entryVal e) ≤ maxDepth + 2 := by
  obtain ⟨c, t, x⟩ := e
  have : depthOf t x ≤ maxDepth := by
    match r with
    | some f =>
      -- the known fields carry values of basic types
      have h0 : depthOf f.entry.2.1 f.entry.2.2 = 0 := by cases f <;> rfl
      rw [← (entryField_eq_some.1 h).1] at h0
      exact Nat.le_trans (Nat.le_of_eq h0) (Nat.zero_le _)
    | none => exact (entryField_eq_some.1 h).2
  simp only [entryVal, depthOf, depthOfFields]
  omega

theorem entriesFields_cons {e : Entry} {es : List Entry} {fs : List Field} :
    entriesFields (e :: es) = some fs ↔
      ∃ f? rest, entryField e = some f? ∧ entriesFields es = some rest ∧
        (match f? with
         | some f => some (f :: rest)
         | none => some rest) = some fs := by
  rw [entriesFields]
  constructor
  · intro h
    split at h
    · exact ⟨some _, _, ‹_›, ‹_›, h⟩
    · exact ⟨none, _, ‹_›, ‹_›, h⟩
    · cases h
  · rintro ⟨f?, rest, hf, hr, h⟩
    rw [hf, hr]
    cases f? <;> exact h

theorem decodeFields_sound {bo : ByteOrder} {buf : List UInt8} {lim fuel off : Nat} {fs : List Field}
    (hb : lim ≤ buf.length) (h : decodeFields bo buf off lim fuel = some fs) :
    ∃ es body, encList bo off elemTy (es.map entryVal) = some body ∧ HasAt buf off body ∧
      lim = off + body.length ∧ entriesFields es = some fs := by
  have nil {off} (h : off = lim) : ∃ es body, encList bo off elemTy (es.map entryVal) = some body ∧
      HasAt buf off body ∧ lim = off + body.length ∧ entriesFields es = some [] :=
    ⟨[], [], rfl, hasAt_nil (h ▸ hb), h.symm, rfl⟩
  induction fuel generalizing off fs with
  | zero =>
    rw [decodeFields] at h
    split at h
    · cases h; exact nil ‹_›
    · cases h
  | succ fuel ih =>
    rw [decodeFields] at h
    split at h
    · cases h; exact nil ‹_›
    split at h
    · cases h
    rename_i f? o' hd
    split at h
    · cases h
    rename_i rest hr
    obtain ⟨e, hde, hef⟩ := decodeField_iff.1 hd
    obtain ⟨b, he, hw, rfl, -⟩ := dec_iff.1 hde
    obtain ⟨es, r, hes, hw', rfl, hfs⟩ := ih hr
    exact ⟨e :: es, b ++ r, by simp only [List.map_cons, encList, he, hes], hasAt_append.2 ⟨hw, hw'⟩,
      by rw [List.length_append, Nat.add_assoc], entriesFields_cons.2 ⟨_, _, hef, hfs, h⟩⟩

theorem decodeFields_complete {bo : ByteOrder} {buf : List UInt8} {es : List Entry} {fs : List Field} {off fuel : Nat}
    {body : List UInt8} (h : encList bo off elemTy (es.map entryVal) = some body) (hw : HasAt buf off body)
    (hf : entriesFields es = some fs) (hfuel : body.length ≤ fuel) :
    decodeFields bo buf off (off + body.length) fuel = some fs := by
  induction es generalizing off body fs fuel with
  | nil =>
    cases h; cases hf
    cases fuel <;> simp [decodeFields]
  | cons e es ih =>
    obtain ⟨b, r, hb, hr, rfl⟩ := encList_cons_some h
    obtain ⟨f?, rest, hef, hes, hfs⟩ := entriesFields_cons.1 hf
    obtain ⟨hwb, hwr⟩ := hasAt_append.1 hw
    have hpos := enc_pos hb
    have hl := hw.1
    rw [List.length_append] at hfuel hl ⊢
    match fuel with
    | 0 => omega
    | fuel + 1 =>
      rw [decodeFields, if_neg (by omega), decodeField_iff.2
        ⟨e, dec_iff.2 ⟨b, hb, hwb, rfl, by omega, by omega, entryVal_depth hef, nofun⟩, hef⟩]
      dsimp only
      rw [← Nat.add_assoc, ih hr hwr hes (by omega)]
      exact hfs

theorem enc_fieldArray {bo : ByteOrder} {vs : List Val} {arr : List UInt8} :
    enc bo 12 fieldArrayTy (.arr vs) = some arr ↔
      ∃ body, encList bo 16 elemTy vs = some body ∧ body.length ≤ maxArrayLen ∧
        arr = bytesOf bo 4 body.length ++ body := by
  have p1 : padLen 4 12 = 0 := by decide
  have p2 : padLen 8 16 = 0 := by decide
  simp only [fieldArrayTy, enc, p1, Ty.align, p2, zeros, List.replicate_zero, List.nil_append]
  cases encList bo 16 elemTy vs with
  | none => simp
  | some body =>
    simp only [Option.some.injEq, exists_eq_left']
    split
    · rename_i h; simp [h, eq_comm]
    · rename_i h; simp [h]

end Rustbus.Header
