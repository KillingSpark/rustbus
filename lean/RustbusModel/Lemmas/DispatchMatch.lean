import RustbusModel.Spec.Dispatch
/-!
C19, one pattern against one path: splitting at slashes and reading a pattern segment (`ObjectPathPattern::new`);
`ObjectPathPattern::matches`, an index based `try_fold`, against the relation `Spec.Matches` (`tryFold_iff`: from any
index on, with any captures made so far); the capture map of a match as a map.
-/
namespace Rustbus.Dispatch
open Spec

theorem splitAux_ne_nil (cur : Seg) (s : List Char) : splitAux cur s ≠ [] := by
  induction s generalizing cur with
  | nil => simp [splitAux]
  | cons c cs ih =>
    simp only [splitAux]
    split
    · simp
    · exact ih _

theorem splitSlash_ne_nil (s : List Char) : splitSlash s ≠ [] := splitAux_ne_nil _ _

theorem joinSlash_cons (a : Seg) {l : List Seg} (h : l ≠ []) :
    joinSlash (a :: l) = a ++ '/' :: joinSlash l := by
  cases l with
  | nil => contradiction
  | cons b r => rfl

theorem splitAux_append (cur g : Seg) (s : List Char) (hg : '/' ∉ g) :
    splitAux cur (g ++ s) = splitAux (cur ++ g) s := by
  induction g generalizing cur with
  | nil => simp
  | cons c g ih =>
    have hc : c ≠ '/' := fun e => hg (by simp [e])
    simp only [List.cons_append, splitAux, if_neg hc]
    rw [ih _ (fun h => hg (by simp [h]))]
    simp

theorem joinSlash_splitAux (cur : Seg) (s : List Char) : joinSlash (splitAux cur s) = cur ++ s := by
  induction s generalizing cur with
  | nil => simp [splitAux, joinSlash]
  | cons c cs ih =>
    simp only [splitAux]
    split
    · rename_i h
      subst h
      rw [joinSlash_cons _ (splitAux_ne_nil _ _), ih]
      simp
    · rw [ih]; simp

theorem splitAux_noslash (cur : Seg) (s : List Char) (hc : '/' ∉ cur) :
    ∀ g ∈ splitAux cur s, '/' ∉ g := by
  induction s generalizing cur with
  | nil => simpa [splitAux] using hc
  | cons c cs ih =>
    simp only [splitAux]
    split
    · exact List.forall_mem_cons.mpr ⟨hc, ih [] List.not_mem_nil⟩
    · rename_i h
      exact ih _ (by simp [hc, Ne.symm h])

theorem splitAux_joinSlash (g : Seg) (gs : List Seg) (cur : Seg) (h : ∀ x ∈ g :: gs, '/' ∉ x) :
    splitAux cur (joinSlash (g :: gs)) = (cur ++ g) :: gs := by
  induction gs generalizing g cur with
  | nil => simpa [joinSlash, splitAux] using splitAux_append cur g [] (h g (by simp))
  | cons b r ih =>
    rw [joinSlash_cons _ (by simp), splitAux_append _ _ _ (h g (by simp))]
    simpa [splitAux] using ih b [] (fun x hx => h x (by simp [hx]))

theorem classify_iff (seg : Seg) (part : PathPart) : PartOf seg part ↔ classify seg = part := by
  constructor
  · intro h
    cases h with
    | named r | wild => simp [classify]
    | literal s h1 h2 => simp [classify, h1, h2]
  · intro h
    subst h
    unfold classify
    split
    · rename_i h
      cases seg with
      | nil => simp at h
      | cons c r =>
        simp only [List.head?_cons, Option.some.injEq] at h
        subst h
        exact PartOf.named r
    · split
      · rename_i h; subst h; exact PartOf.wild
      · rename_i h1 h2; exact PartOf.literal seg h1 h2

theorem allPairs_iff_map {α β : Type} {R : α → β → Prop} {f : α → β} (hR : ∀ a b, R a b ↔ f a = b)
    (as : List α) (bs : List β) : AllPairs R as bs ↔ as.map f = bs := by
  constructor
  · intro h
    induction h with
    | nil => rfl
    | cons h1 _ ih => rw [List.map_cons, (hR _ _).mp h1, ih]
  · rintro rfl
    induction as with
    | nil => exact AllPairs.nil
    | cons a as ih => exact AllPairs.cons ((hR _ _).mpr rfl) ih

theorem patternNew_ne_nil (p : List Char) : patternNew p ≠ [] := by
  simp [patternNew, splitSlash_ne_nil]

theorem matches_nil_left (ss : List Seg) (b : List (Seg × Seg)) : Matches [] ss b ↔ ss = [] ∧ b = [] := by
  constructor
  · intro h; cases h; exact ⟨rfl, rfl⟩
  · rintro ⟨rfl, rfl⟩; exact Matches.done

theorem matches_length {ps : List PathPart} {ss : List Seg} {b : List (Seg × Seg)}
    (h : Matches ps ss b) : ps.length ≤ ss.length := by
  induction h with
  | done => exact Nat.le_refl _
  | wildTail => simp
  | _ => simp only [List.length_cons]; omega

theorem matches_binds_unique {ps : List PathPart} {ss : List Seg} {b b' : List (Seg × Seg)}
    (h : Matches ps ss b) (h' : Matches ps ss b') : b = b' := by
  induction h generalizing b' with
  | done => cases h'; rfl
  | literal s _ ih =>
    cases h' with
    | literal _ h2 => exact ih h2
  | named n s _ ih =>
    cases h' with
    | named _ _ h2 => rw [ih h2]
  | wildOne s h1 ih =>
    cases h' with
    | wildOne _ h2 => exact ih h2
    | wildTail _ t ht =>
      cases h1 with
      | done => contradiction
  | wildTail s t ht =>
    cases h' with
    | wildOne _ h2 =>
      cases h2 with
      | done => contradiction
    | wildTail _ _ _ => rfl

/-- the capture map `c` after the bindings `b` of a match were inserted in order, as the fold of the code does -/
def applyBinds (c : Caps) (b : List (Seg × Seg)) : Caps :=
  b.foldl (fun m kv => capsInsert m kv.1 kv.2) c

/-- `c'` is the capture map `c` after a match of `ps` against `ss` -/
def MatchCaps (ps : List PathPart) (ss : List Seg) (c c' : Caps) : Prop :=
  ∃ b, Matches ps ss b ∧ c' = applyBinds c b

section
variable {e n s : Seg} {ps : List PathPart} {ss : List Seg} {c c' : Caps}

theorem matchCaps_nil : MatchCaps [] ss c c' ↔ ss = [] ∧ c' = c := by
  constructor
  · rintro ⟨_, h, rfl⟩; cases h; exact ⟨rfl, rfl⟩
  · rintro ⟨rfl, rfl⟩; exact ⟨_, .done, rfl⟩

theorem matchCaps_exact :
    MatchCaps (.exact e :: ps) (s :: ss) c c' ↔ e = s ∧ MatchCaps ps ss c c' := by
  constructor
  · rintro ⟨_, h, rfl⟩; cases h with | literal _ h => exact ⟨rfl, _, h, rfl⟩
  · rintro ⟨rfl, _, h, rfl⟩; exact ⟨_, .literal _ h, rfl⟩

theorem matchCaps_as :
    MatchCaps (.as n :: ps) (s :: ss) c c' ↔ MatchCaps ps ss (capsInsert c n s) c' := by
  constructor
  · rintro ⟨_, h, rfl⟩; cases h with | named _ _ h => exact ⟨_, h, rfl⟩
  · rintro ⟨_, h, rfl⟩; exact ⟨_, .named _ _ h, rfl⟩

theorem matchCaps_all :
    MatchCaps (.all :: ps) (s :: ss) c c' ↔ MatchCaps ps ss c c' ∨ ps = [] ∧ ss ≠ [] ∧ c' = c := by
  constructor
  · rintro ⟨_, h, rfl⟩
    cases h with
    | wildOne _ h => exact .inl ⟨_, h, rfl⟩
    | wildTail _ _ h => exact .inr ⟨rfl, h, rfl⟩
  · rintro (⟨_, h, rfl⟩ | ⟨rfl, h, rfl⟩)
    · exact ⟨_, .wildOne _ h, rfl⟩
    · exact ⟨_, .wildTail _ _ h, rfl⟩

end

theorem foldStep_past {pat : Pattern} {idx : Nat} (h : pat.length ≤ idx) (c : Caps) (s : Seg) :
    foldStep pat c idx s = if pat.getLast? = some .all then some c else none := by
  rw [foldStep, if_pos h]
  split
  · rename_i hl; rw [if_pos hl]
  · rename_i hl; rw [if_neg hl]

theorem foldStep_append (pre : Pattern) (p : PathPart) (ps : Pattern) (c : Caps) (s : Seg) :
    foldStep (pre ++ p :: ps) c pre.length s =
      match p with
      | .all => some c
      | .exact e => if e = s then some c else none
      | .as n => some (capsInsert c n s) := by
  have hlt : ¬ (pre ++ p :: ps).length ≤ pre.length := by
    rw [List.length_append]; exact Nat.not_le.mpr (Nat.lt_add_of_pos_right (Nat.succ_pos _))
  rw [foldStep, if_neg hlt, List.getElem?_append_right (Nat.le_refl _), Nat.sub_self]
  cases p <;> rfl

theorem tryFold_past {pat : Pattern} {idx : Nat} (h : pat.length ≤ idx) (ss : List Seg) (c c' : Caps) :
    tryFold pat idx ss c = some c' ↔ (ss = [] ∨ pat.getLast? = some .all) ∧ c' = c := by
  induction ss generalizing idx with
  | nil => simp [tryFold, eq_comm]
  | cons s ss ih =>
    simp only [tryFold, foldStep_past h]
    by_cases hl : pat.getLast? = some .all <;> simp [hl, ih (Nat.le_succ_of_le h)]

/-- The code lets the path run on past a final wildcard, the relation gives that wildcard the whole
    tail. From an index in the middle (`pre` gone by, `ps` to come) the two therefore agree unless `ps` is used up
    and segments remain: the code then accepts exactly if the last part of `pre` was the wildcard, which is the
    second alternative. `patMatches_iff` starts with `pre = []`, where it cannot arise. -/
theorem tryFold_iff (ps : List PathPart) : ∀ (pre : List PathPart) (ss : List Seg) (c c' : Caps),
    ps.length ≤ ss.length →
    (tryFold (pre ++ ps) pre.length ss c = some c' ↔
      MatchCaps ps ss c c' ∨ ps = [] ∧ ss ≠ [] ∧ pre.getLast? = some .all ∧ c' = c) := by
  induction ps with
  | nil =>
    intro pre ss c c' _
    rw [List.append_nil, tryFold_past (Nat.le_refl _), matchCaps_nil]
    by_cases hs : ss = [] <;> simp [hs]
  | cons p ps ih =>
    intro pre ss c c' hlen
    cases ss with
    | nil => exact absurd hlen (Nat.not_succ_le_zero _)
    | cons s ss =>
      have ih' : ∀ c, tryFold (pre ++ p :: ps) (pre.length + 1) ss c = some c' ↔
          MatchCaps ps ss c c' ∨ ps = [] ∧ ss ≠ [] ∧ p = .all ∧ c' = c := by
        intro c
        have := ih (pre ++ [p]) ss c c' (Nat.le_of_succ_le_succ hlen)
        rwa [List.append_assoc, List.length_append, List.getLast?_concat, Option.some.injEq] at this
      simp only [tryFold, foldStep_append, reduceCtorEq, false_and, or_false]
      cases p with
      | all => rw [matchCaps_all, ih']; simp
      | exact e =>
        rw [matchCaps_exact]
        by_cases he : e = s
        · subst he; simp [ih']
        · simp [he]
      | as n => rw [matchCaps_as, ih']; simp

theorem patMatches_iff {pat : Pattern} {q : List Char} {caps : Caps} :
    patMatches pat q = some caps ↔ ∃ b, Matches pat (splitSlash q) b ∧ caps = applyBinds [] b := by
  rw [patMatches]
  split
  · rename_i hlt
    exact ⟨nofun, fun ⟨b, hm, _⟩ => absurd (matches_length hm) (Nat.not_le.mpr hlt)⟩
  · rename_i hlt
    exact (tryFold_iff pat [] _ [] caps (Nat.le_of_not_lt hlt)).trans
      (or_iff_left fun h => nomatch h.2.2.1)

/-!
Both hash maps of the model (captures, routes) are association lists read by a first-match lookup
(`assocGet`, `routeOf`). `IsLookup` says what such a lookup is, so that its lemmas are proved once;
an insert is whatever satisfies the equation `hins` of `IsLookup.foldl_insert`. -/

structure IsLookup {κ ν : Type} [DecidableEq κ] (get : κ → List (κ × ν) → Option ν) : Prop where
  nil : ∀ k, get k [] = none
  cons : ∀ k a v r, get k ((a, v) :: r) = if a = k then some v else get k r

theorem assocGet_isLookup : IsLookup assocGet := ⟨fun _ => rfl, fun _ _ _ _ => rfl⟩

theorem routeOf_isLookup {H : Type} : IsLookup (routeOf (H := H)) := ⟨fun _ => rfl, fun _ _ _ _ => rfl⟩

namespace IsLookup
variable {κ ν : Type} [DecidableEq κ] {get : κ → List (κ × ν) → Option ν} (hg : IsLookup get)
include hg

theorem append (k : κ) (l₁ l₂ : List (κ × ν)) : get k (l₁ ++ l₂) = (get k l₁).or (get k l₂) := by
  induction l₁ with
  | nil => rw [List.nil_append, hg.nil, Option.none_or]
  | cons e l ih =>
    rw [List.cons_append, hg.cons, hg.cons, ih]
    split <;> rfl

theorem mem_of_eq_some {k : κ} {l : List (κ × ν)} {v : ν} (h : get k l = some v) : (k, v) ∈ l := by
  induction l with
  | nil => rw [hg.nil] at h; cases h
  | cons e l ih =>
    rw [hg.cons] at h
    split at h
    · rename_i hak
      cases h
      exact hak ▸ List.mem_cons_self
    · exact List.mem_cons_of_mem _ (ih h)

theorem mem_iff {l : List (κ × ν)} (hnd : (l.map (·.1)).Nodup) {k : κ} {v : ν} :
    (k, v) ∈ l ↔ get k l = some v := by
  refine ⟨fun hmem => ?_, hg.mem_of_eq_some⟩
  induction l with
  | nil => cases hmem
  | cons e l ih =>
    rw [List.map_cons, List.nodup_cons] at hnd
    rw [hg.cons]
    rcases List.mem_cons.mp hmem with heq | hmem
    · rw [← heq]; exact if_pos rfl
    · rw [if_neg (fun hk : e.1 = k => hnd.1 (hk ▸ List.mem_map_of_mem (f := (·.1)) hmem)),
        ih hnd.2 hmem]

theorem perm {l₁ l₂ : List (κ × ν)} (hp : l₁.Perm l₂) (hnd : (l₂.map (·.1)).Nodup) (k : κ) :
    get k l₁ = get k l₂ := by
  apply Option.ext
  intro v
  rw [← hg.mem_iff ((hp.map _).nodup_iff.mpr hnd), ← hg.mem_iff hnd]
  exact hp.mem_iff

theorem foldl_insert {ins : List (κ × ν) → κ → ν → List (κ × ν)}
    (hins : ∀ m a v k, get k (ins m a v) = if a = k then some v else get k m)
    (b c : List (κ × ν)) (k : κ) :
    get k (b.foldl (fun m e => ins m e.1 e.2) c) = (get k b.reverse).or (get k c) := by
  induction b generalizing c with
  | nil => rw [List.foldl_nil, List.reverse_nil, hg.nil, Option.none_or]
  | cons e b ih =>
    rw [List.foldl_cons, ih, hins, List.reverse_cons, hg.append, hg.cons, hg.nil, Option.or_assoc]
    split <;> rfl

end IsLookup

theorem keysNodup_foldl {κ ν : Type} {ins : List (κ × ν) → κ → ν → List (κ × ν)}
    (hins : ∀ m a v, (m.map (·.1)).Nodup → ((ins m a v).map (·.1)).Nodup)
    (b c : List (κ × ν)) (h : (c.map (·.1)).Nodup) :
    ((b.foldl (fun m e => ins m e.1 e.2) c).map (·.1)).Nodup := by
  induction b generalizing c with
  | nil => exact h
  | cons e _ ih => exact ih _ (hins c e.1 e.2 h)

theorem assocGet_capsInsert (m : Caps) (a v k : Seg) :
    assocGet k (capsInsert m a v) = if a = k then some v else assocGet k m := by
  rw [capsInsert, assocGet]
  split
  · rfl
  · rename_i hk
    induction m with
    | nil => rfl
    | cons e m ih =>
      obtain ⟨a', v'⟩ := e
      rw [List.filter_cons]
      split
      · rw [assocGet, assocGet, ih]
      · rename_i he
        have : a' = a := by simpa using he
        rw [ih, assocGet, this, if_neg hk]

theorem keysNodup_capsInsert (m : Caps) (k v : Seg) (h : (m.map (·.1)).Nodup) :
    ((capsInsert m k v).map (·.1)).Nodup := by
  simp only [capsInsert, List.map_cons, List.nodup_cons]
  constructor
  · simp only [List.mem_map, List.mem_filter]
    rintro ⟨e, ⟨_, he⟩, rfl⟩
    simp at he
  · exact (h.sublist ((List.filter_sublist).map _))

theorem assocGet_applyBinds (b : List (Seg × Seg)) (k : Seg) :
    assocGet k (applyBinds [] b) = lastBound b k :=
  (assocGet_isLookup.foldl_insert assocGet_capsInsert b [] k).trans Option.or_none

theorem keysNodup_applyBinds (b : List (Seg × Seg)) : ((applyBinds [] b).map (·.1)).Nodup :=
  keysNodup_foldl keysNodup_capsInsert b [] List.nodup_nil

end Rustbus.Dispatch
