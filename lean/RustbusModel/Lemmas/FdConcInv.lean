import RustbusModel.Lemmas.FdConc
/-!
The invariant `Inv` of the reachable configurations: the shared cell and the `Arc` count against the sums of the
per-thread measures and the numbers of actions in the trace. A step preserves it field by field from the matching
fields of `Local`, the stepping thread singled out of each sum by `sumBy_split` (`inv_step`).
-/
namespace Rustbus.FdConc

/-- number of actions with property `p` so far; with `Act.isCloseOf orig` it is `Config.closesOf` -/
def nActs (p : Act → Bool) (tr : List (Nat × Act)) : Nat := tr.countP (fun e => p e.2)

theorem nActs_append (p : Act → Bool) (tr : List (Nat × Act)) (t : Nat) (acts : List Act) :
    nActs p (tr ++ acts.map (fun a => (t, a))) = nActs p tr + acts.countP p := by
  rw [nActs, List.countP_append, List.countP_map]
  rfl

structure Inv (orig : Int) (c : Config) : Prop where
  /-- the cell holds the descriptor until the one successful compare_exchange -/
  cell : c.sh.inner = orig ∧ nActs Act.isTook c.trace + nActs Act.isDropCas c.trace = 0 ∨
    c.sh.inner = -1 ∧ nActs Act.isTook c.trace + nActs Act.isDropCas c.trace = 1
  wf : ∀ th ∈ c.threads, th.wf orig
  strongEq : c.sh.strong = sumBy held c.threads
  closeEq : nActs (Act.isCloseOf orig) c.trace + sumBy atClose c.threads = nActs Act.isDropCas c.trace
  takeEq : sumBy resTakes c.threads + sumBy pendTake c.threads = nActs Act.isTook c.trace
  /-- while a handle is alive nobody runs `Drop for UnixFdInner` -/
  alive : 0 < c.sh.strong → sumBy inDrop c.threads = 0 ∧ nActs Act.isDropCas c.trace = 0
  /-- after the last decrement one thread runs `Drop`, and it leaves it only with -1 in the cell. The third
      alternative is `init orig []`: count 0 and nobody to run `Drop`. A step keeps the number of threads, so
      `inv_step` hands it on; the one user of `dead`, `closed_once_iff_not_taken`, rules it out by `progs ≠ []`. -/
  dead : c.sh.strong = 0 → sumBy inDrop c.threads = 1 ∨ c.sh.inner = -1 ∨ c.threads.length = 0

theorem sumBy_init (f : Thread → Nat) (k : Nat) (progs : List (List Op))
    (hf : ∀ p, f { prog := p, handles := 1, pc := .idle, results := [] } = k) :
    sumBy f (progs.map (fun p => { prog := p, handles := 1, pc := .idle, results := [] })) = k * progs.length := by
  induction progs with
  | nil => simp [sumBy]
  | cons p ps ih => simp only [List.map_cons, sumBy, hf, ih, List.length_cons]; rw [Nat.mul_succ]; omega

theorem inv_init (orig : Int) (progs : List (List Op)) : Inv orig (init orig progs) := by
  have h1 := sumBy_init held 1 progs (fun _ => by simp [held])
  have h2 := sumBy_init atClose 0 progs (fun _ => by simp [atClose])
  have h3 := sumBy_init resTakes 0 progs (fun _ => by simp [resTakes])
  have h4 := sumBy_init pendTake 0 progs (fun _ => by simp [pendTake])
  have h5 := sumBy_init inDrop 0 progs (fun _ => by simp [inDrop])
  constructor
  · left; exact ⟨rfl, rfl⟩
  · intro th hth
    simp only [init, List.mem_map] at hth
    obtain ⟨p, _, rfl⟩ := hth
    simp [Thread.wf, Pc.wf]
  · simp only [init, h1]; omega
  · simp only [init, h2]; simp [nActs]
  · simp only [init, h3, h4]; simp [nActs]
  · intro _; simp only [init, h5]; simp [nActs]
  · intro h
    right; right
    simpa [init] using h

theorem step_unfold {c c' : Config} {t : Nat} (h : step c t = some c') :
    ∃ th sh' th' acts, c.threads[t]? = some th ∧ stepThread c.sh th = some (sh', th', acts) ∧
      c' = { sh := sh', threads := c.threads.set t th', trace := c.trace ++ acts.map (fun a => (t, a)) } := by
  unfold step at h
  split at h
  · cases h
  · rename_i th hth
    split at h
    · cases h
    · rename_i sh' th' acts hst
      cases h
      exact ⟨th, sh', th', acts, hth, hst, rfl⟩

theorem inv_step {orig : Int} (ho : orig ≠ -1) {c c' : Config} {t : Nat} (inv : Inv orig c)
    (h : step c t = some c') : Inv orig c' := by
  obtain ⟨th, sh', th', acts, hth, hst, rfl⟩ := step_unfold h
  have hmem : th ∈ c.threads := List.mem_of_getElem? hth
  have hin : c.sh.inner = orig ∨ c.sh.inner = -1 := by have := inv.cell; omega
  have L := stepThread_local hst hin (inv.wf th hmem)
  clear hin hst h
  constructor
  · -- the one field that needs `ho` (`omega` takes it from the context): with `orig = -1` the alternatives of
    -- `cell` would overlap, and a compare_exchange from `orig` could succeed on a cell already emptied
    have := inv.cell
    have := L.cell
    simp only [nActs_append]; omega
  · intro x hx
    rcases List.mem_or_eq_of_mem_set hx with hx | rfl
    · exact inv.wf x hx
    · exact L.wf
  · obtain ⟨rH, eH, eH'⟩ := sumBy_split held hth
    have := inv.strongEq
    have := L.arc
    simp only [eH']; omega
  · obtain ⟨rC, eC, eC'⟩ := sumBy_split atClose hth
    have := inv.closeEq
    have := L.closeEq
    simp only [nActs_append, eC']; omega
  · obtain ⟨rR, eR, eR'⟩ := sumBy_split resTakes hth
    obtain ⟨rP, eP, eP'⟩ := sumBy_split pendTake hth
    have := inv.takeEq
    have := L.takeEq
    simp only [nActs_append, eR', eP']; omega
  · obtain ⟨rH, eH, -⟩ := sumBy_split held hth
    obtain ⟨rD, eD, eD'⟩ := sumBy_split inDrop hth
    have := inv.strongEq
    have := inv.alive
    have := L.arc
    have := L.dcasDrop
    simp only [nActs_append, eD']; omega
  · -- a thread that leaves `Drop` by its `close` was counted in `sumBy atClose`: by `closeEq` a compare_exchange
    -- of `Drop` has succeeded, so by `cell` the cell holds -1
    obtain ⟨rC, eC, -⟩ := sumBy_split atClose hth
    obtain ⟨rD, eD, eD'⟩ := sumBy_split inDrop hth
    have := inv.dead
    have := inv.alive
    have := inv.cell
    have := inv.closeEq
    have := L.arc
    have := L.cell
    have := L.leaveDrop
    simp only [eD', List.length_set]; omega

theorem run_cons {c c' : Config} {t : Nat} {s : List Nat} :
    run c (t :: s) = some c' ↔ ∃ cm, step c t = some cm ∧ run cm s = some c' := by
  simp only [run]
  split <;> simp [*]

theorem run_invariant {P : Config → Prop} (hP : ∀ {c t c'}, P c → step c t = some c' → P c') {s : List Nat}
    {c c' : Config} (hc : P c) (h : run c s = some c') : P c' := by
  induction s generalizing c with
  | nil => exact Option.some.inj h ▸ hc
  | cons t s ih =>
    obtain ⟨cm, hcm, h⟩ := run_cons.mp h
    exact ih (hP hc hcm) h

theorem inv_reach {orig : Int} (ho : orig ≠ -1) {progs : List (List Op)} {s : List Nat} {c : Config}
    (h : run (init orig progs) s = some c) : Inv orig c :=
  run_invariant (inv_step ho) (inv_init orig progs) h

theorem run_length {s : List Nat} {c c' : Config} (h : run c s = some c') :
    c'.threads.length = c.threads.length := by
  refine run_invariant (P := fun x => x.threads.length = c.threads.length) ?_ rfl h
  intro x t x' hx hs
  obtain ⟨_, _, _, _, _, _, rfl⟩ := step_unfold hs
  rw [← hx, List.length_set]

theorem countP_allResults (c : Config) : c.allResults.countP Res.isTakeSome = sumBy resTakes c.threads := by
  unfold Config.allResults
  induction c.threads with
  | nil => simp [sumBy]
  | cons x l ih => simp only [List.flatMap_cons, List.countP_append, ih, sumBy, resTakes]

theorem finished_measures {c : Config} (hf : c.finished = true) :
    sumBy held c.threads = 0 ∧ sumBy inDrop c.threads = 0 ∧ sumBy atClose c.threads = 0 ∧
    sumBy pendTake c.threads = 0 := by
  have h : ∀ th ∈ c.threads, th.pc = .idle ∧ th.handles = 0 := by
    intro th hth
    have := List.all_eq_true.mp hf th hth
    simp only [Thread.finished, Bool.and_eq_true, beq_iff_eq] at this
    exact ⟨this.1.1, this.2⟩
  refine ⟨sumBy_eq_zero _ ?_, sumBy_eq_zero _ ?_, sumBy_eq_zero _ ?_, sumBy_eq_zero _ ?_⟩ <;>
  · intro th hth
    obtain ⟨h1, h2⟩ := h th hth
    simp [held, inDrop, atClose, pendTake, h1, h2]

theorem inner_gone_of_took {orig : Int} {c : Config} (inv : Inv orig c) (ht : 0 < nActs Act.isTook c.trace) :
    c.sh.inner = -1 := by
  have := inv.cell
  omega

theorem took_pos_of_taken {orig : Int} {c : Config} (inv : Inv orig c)
    (h : (∃ e ∈ c.trace, e.2.isTook = true) ∨ (∃ r ∈ c.allResults, r.isTakeSome = true)) :
    0 < nActs Act.isTook c.trace := by
  rcases h with h | h
  · exact List.countP_pos_iff.mpr h
  · have := List.countP_pos_iff.mpr h
    rw [countP_allResults] at this
    have := inv.takeEq
    omega

end Rustbus.FdConc
