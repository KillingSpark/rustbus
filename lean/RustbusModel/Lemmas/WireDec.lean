import RustbusModel.Model.Wire
import RustbusModel.Lemmas.WireBytes
/-!
One-step unfoldings of the decoder (`decBase` per class of basic type, `dec` per type constructor, the three
loops), and the reduction of dicts to arrays of two-field structs on the decoding side (`dec_dict_eq_array`).
-/
namespace Rustbus.Wire
open Rustbus.Bytes

section unfold
variable {bo : ByteOrder} {buf : List UInt8} {nfds : Option Nat}

theorem decBase_fixed_eq {b : Base} {k off lim : Nat} (hk : b.fixedSize = some k) :
    decBase bo buf nfds b off lim =
      match skipPad buf off lim b.align with
      | none => none
      | some o =>
        match readNum bo buf o lim k with
        | none => none
        | some n =>
          if n < b.bound then
            match (generalizing := false) b, nfds with
            | .unixfd, some cnt => if n < cnt then some (.num n, o + k) else none
            | _, _ => some (.num n, o + k)
          else none := by
  unfold decBase; simp only [hk]; rfl

theorem decBase_sig_eq {off lim : Nat} :
    decBase bo buf nfds .signature off lim =
      match readNum bo buf off lim 1 with
      | none => none
      | some len =>
        if off + len + 2 ≤ lim then
          if slice buf (off + 1 + len) 1 = [0] && strOk .signature (slice buf (off + 1) len) then
            some (.str (slice buf (off + 1) len), off + len + 2) else none
        else none := rfl

/-- the string-likes are read alike; a signature has alignment 1: no padding, and the bounds test of `skipPad` is
    that of `readNum` -/
theorem decBase_strLike_eq {b : Base} {off lim : Nat} (hk : b.fixedSize = none) :
    decBase bo buf nfds b off lim =
      match skipPad buf off lim b.align with
      | none => none
      | some o =>
        match readNum bo buf o lim b.align with
        | none => none
        | some len =>
          if o + len + (b.align + 1) ≤ lim then
            if slice buf (o + b.align + len) 1 = [0] && strOk b (slice buf (o + b.align) len) then
              some (.str (slice buf (o + b.align) len), o + len + (b.align + 1)) else none
          else none := by
  cases b <;> cases hk
  · rfl
  · rfl
  · rw [decBase_sig_eq]
    simp only [Base.align, skipPad, padLen_one, Nat.add_zero, slice_zero, allZero, List.all_nil, and_true]
    by_cases hc : off ≤ lim ∧ lim ≤ buf.length
    · rw [if_pos hc]; rfl
    · rw [if_neg hc, readNum, if_neg (by omega)]

theorem dec_base {d : Nat} {b : Base} {off lim : Nat} :
    dec bo buf nfds d (.base b) off lim = decBase bo buf nfds b off lim := by
  simp only [dec]

theorem dec_zero {t : Ty} {off lim : Nat} (ht : ∀ b, t ≠ .base b) :
    dec bo buf nfds 0 t off lim = none := by
  cases t <;> first | exact absurd rfl (ht _) | simp only [dec]

theorem dec_array {d : Nat} {e : Ty} {off lim : Nat} :
    dec bo buf nfds (d + 1) (.array e) off lim =
    match skipPad buf off lim 4 with
    | none => none
    | some o =>
      match readNum bo buf o lim 4 with
      | none => none
      | some len =>
        if len ≤ maxArrayLen then
          match skipPad buf (o + 4) lim e.align with
          | none => none
          | some o2 =>
            if o2 + len ≤ lim then
              match decList bo buf nfds d e o2 (o2 + len) len with
              | none => none
              | some vs => some (.arr vs, o2 + len)
            else none
        else none := by
  rw [dec]; rfl

theorem dec_dict_one {k : Base} {v : Ty} {off lim : Nat} :
    dec bo buf nfds 1 (.dict k v) off lim = none := by
  simp only [dec]

theorem dec_dict {d' : Nat} {k : Base} {v : Ty} {off lim : Nat} :
    dec bo buf nfds (d' + 2) (.dict k v) off lim =
      match skipPad buf off lim 4 with
      | none => none
      | some o =>
        match readNum bo buf o lim 4 with
        | none => none
        | some len =>
          if len ≤ maxArrayLen then
            match skipPad buf (o + 4) lim 8 with
            | none => none
            | some o2 =>
              if o2 + len ≤ lim then
                match decEntries bo buf nfds d' k v o2 (o2 + len) len with
                | none => none
                | some es => some (.arr es, o2 + len)
              else none
          else none := by
  rw [dec]; rfl

theorem dec_struct {d : Nat} {fs : List Ty} {off lim : Nat} :
    dec bo buf nfds (d + 1) (.struct fs) off lim =
    if fs.isEmpty then none
    else
      match skipPad buf off lim 8 with
      | none => none
      | some o =>
        match decFields bo buf nfds d fs o lim with
        | none => none
        | some (vs, o') => some (.struct vs, o') := by
  rw [dec]; rfl

theorem dec_variant {d : Nat} {off lim : Nat} :
    dec bo buf nfds (d + 1) .variant off lim =
    match readNum bo buf off lim 1 with
    | none => none
    | some len =>
      if off + len + 2 ≤ lim then
        if slice buf (off + 1 + len) 1 = [0] then
          match Sig.parseDescription (latin1 (slice buf (off + 1) len)) with
          | some [t] =>
            match dec bo buf nfds d t (off + len + 2) lim with
            | none => none
            | some (v, o') => some (.variant t v, o')
          | _ => none
        else none
      else none := by
  rw [dec]; rfl

theorem decList_zero {d : Nat} {e : Ty} {off lim : Nat} :
    decList bo buf nfds d e off lim 0 = if off = lim then some [] else none := by
  simp only [decList]

theorem decList_succ {d : Nat} {e : Ty} {off lim fuel : Nat} :
    decList bo buf nfds d e off lim (fuel + 1) =
    if off = lim then some []
    else
      match dec bo buf nfds d e off lim with
      | none => none
      | some (v, o') =>
        match decList bo buf nfds d e o' lim fuel with
        | none => none
        | some vs => some (v :: vs) := by
  rw [decList]; rfl

theorem decEntries_zero {d : Nat} {k : Base} {vt : Ty} {off lim : Nat} :
    decEntries bo buf nfds d k vt off lim 0 = if off = lim then some [] else none := by
  simp only [decEntries]

theorem decEntries_succ {d : Nat} {k : Base} {vt : Ty} {off lim fuel : Nat} :
    decEntries bo buf nfds d k vt off lim (fuel + 1) =
    if off = lim then some []
    else
      match skipPad buf off lim 8 with
      | none => none
      | some o =>
        match decBase bo buf nfds k o lim with
        | none => none
        | some (kv, o1) =>
          match dec bo buf nfds d vt o1 lim with
          | none => none
          | some (vv, o2) =>
            match decEntries bo buf nfds d k vt o2 lim fuel with
            | none => none
            | some es => some (.struct [kv, vv] :: es) := by
  rw [decEntries]; rfl

theorem decFields_nil {d : Nat} {off lim : Nat} :
    decFields bo buf nfds d [] off lim = some ([], off) := by
  simp only [decFields]

theorem decFields_cons {d : Nat} {t : Ty} {ts : List Ty} {off lim : Nat} :
    decFields bo buf nfds d (t :: ts) off lim =
    match dec bo buf nfds d t off lim with
    | none => none
    | some (v, o') =>
      match decFields bo buf nfds d ts o' lim with
      | none => none
      | some (vs, o'') => some (v :: vs, o'') := by
  rw [decFields]; rfl
end unfold

theorem decEntries_eq_decList (bo : ByteOrder) (buf : List UInt8) (nfds : Option Nat) (d : Nat) (k : Base)
    (vt : Ty) (off lim fuel : Nat) :
    decEntries bo buf nfds d k vt off lim fuel =
      decList bo buf nfds (d + 1) (.struct [.base k, vt]) off lim fuel := by
  induction fuel generalizing off with
  | zero => rw [decEntries_zero, decList_zero]
  | succ fuel ih =>
    rw [decEntries_succ, decList_succ, dec_struct]
    simp only [decFields_cons, decFields_nil, dec_base, ih, List.isEmpty_cons, Bool.false_eq_true, if_false]
    split
    · rfl
    cases skipPad buf off lim 8 with
    | none => rfl
    | some o =>
      dsimp only
      cases decBase bo buf nfds k o lim with
      | none => rfl
      | some r =>
        dsimp only
        cases dec bo buf nfds d vt r.2 lim with
        | none | some r' => rfl

/-- `d + 2`: a dict needs two levels even when empty -/
theorem dec_dict_eq_array (bo : ByteOrder) (buf : List UInt8) (nfds : Option Nat) (d : Nat) (k : Base)
    (vt : Ty) (off lim : Nat) :
    dec bo buf nfds (d + 2) (.dict k vt) off lim =
      dec bo buf nfds (d + 2) (.array (.struct [.base k, vt])) off lim := by
  rw [dec_dict, dec_array]
  simp only [decEntries_eq_decList, Ty.align]

end Rustbus.Wire
