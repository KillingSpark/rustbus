import RustbusModel.Model.Limits
import RustbusModel.Lemmas.WireDec
/-!
C18, the instrumented decoder `decT`: its one-step unfoldings (arrays and dicts through `collT`, the head they share),
and `runOk_all`. Every instrumented step ends in exactly one of two forms (`Run`): accepted with the result of the plain
decoder, the high-water mark at the end of what was accepted and no oversize marker; or refused, as the plain decoder
refuses (`Stop`). Every step starts where the one before it ended, so `Within` composes by transitivity and the `max`
chains of the model collapse to their last member. The induction is on the nesting budget. At the end the one run
worked out by hand: a tower of variants is abandoned where the budget runs out (`decT_variant_tower`, with its
helpers `readNumT_ok` and `parse_v`).
-/
namespace Rustbus.Limits
open Rustbus.Bytes Rustbus.Wire

/-- the head that arrays and dicts have in common (length word, the 64 MiB check, padding to the alignment `a`
    of the elements) around any run `inner o2 len` of the elements -/
def collT (bo : ByteOrder) (buf : List UInt8) (a : Nat) (inner : Nat → Nat → Tr (List Val)) (off lim : Nat) :
    Tr (Val × Nat) :=
  match skipPadT buf off lim 4 with
  | (none, h) => ⟨none, h, none⟩
  | (some o, h) =>
    match readNumT bo buf o lim 4 with
    | (none, h2) => ⟨none, max h h2, none⟩
    | (some len, h2) =>
      if len ≤ maxArrayLen then
        match skipPadT buf (o + 4) lim a with
        | (none, h3) => ⟨none, max (max h h2) h3, none⟩
        | (some o2, h3) =>
          if o2 + len ≤ lim then
            match inner o2 len with
            | ⟨none, h4, b⟩ => ⟨none, max (max (max h h2) h3) h4, b⟩
            | ⟨some vs, h4, b⟩ => ⟨some (.arr vs, o2 + len), max (max (max h h2) h3) h4, b⟩
          else ⟨none, max (max h h2) h3, none⟩
      else ⟨none, max h h2, some o⟩

section unfold
variable {bo : ByteOrder} {buf : List UInt8} {nfds : Option Nat}

/- Where the right side is a `match`, it is the model's written again (for arrays and dicts folded into `collT`):
   `simp only` unfolds the left side and `rfl` identifies the two copies. -/

theorem decT_base {d : Nat} {b : Base} {off lim : Nat} :
    decT bo buf nfds d (.base b) off lim = decBaseT bo buf nfds b off lim := by
  simp only [decT]

theorem decT_zero {t : Ty} {off lim : Nat} (ht : ∀ b, t ≠ .base b) :
    decT bo buf nfds 0 t off lim = ⟨none, off, none⟩ := by
  cases t <;> first | exact absurd rfl (ht _) | simp only [decT]

theorem decT_array {d : Nat} {e : Ty} {off lim : Nat} :
    decT bo buf nfds (d + 1) (.array e) off lim =
      collT bo buf e.align (fun o2 len => decListT bo buf nfds d e o2 (o2 + len) len) off lim := by
  simp only [decT]
  rfl

theorem decT_dict_one {k : Base} {v : Ty} {off lim : Nat} :
    decT bo buf nfds 1 (.dict k v) off lim = ⟨none, off, none⟩ := by
  simp only [decT]

theorem decT_dict {d' : Nat} {k : Base} {v : Ty} {off lim : Nat} :
    decT bo buf nfds (d' + 2) (.dict k v) off lim =
      collT bo buf 8 (fun o2 len => decEntriesT bo buf nfds d' k v o2 (o2 + len) len) off lim := by
  simp only [decT]
  rfl

theorem decT_struct {d : Nat} {fs : List Ty} {off lim : Nat} :
    decT bo buf nfds (d + 1) (.struct fs) off lim =
    if fs.isEmpty then ⟨none, off, none⟩
    else
      match skipPadT buf off lim 8 with
      | (none, h) => ⟨none, h, none⟩
      | (some o, h) =>
        match decFieldsT bo buf nfds d fs o lim with
        | ⟨none, h2, b⟩ => ⟨none, max h h2, b⟩
        | ⟨some (vs, o'), h2, b⟩ => ⟨some (.struct vs, o'), max h h2, b⟩ := by
  simp only [decT]
  rfl

theorem decT_variant {d : Nat} {off lim : Nat} :
    decT bo buf nfds (d + 1) .variant off lim =
    match readNumT bo buf off lim 1 with
    | (none, h) => ⟨none, h, none⟩
    | (some len, h) =>
      if off + len + 2 ≤ lim then
        if slice buf (off + 1 + len) 1 = [0] then
          match Sig.parseDescription (latin1 (slice buf (off + 1) len)) with
          | some [t] =>
            match decT bo buf nfds d t (off + len + 2) lim with
            | ⟨none, h2, b⟩ => ⟨none, max (max h (off + len + 2)) h2, b⟩
            | ⟨some (v, o'), h2, b⟩ => ⟨some (.variant t v, o'), max (max h (off + len + 2)) h2, b⟩
          | _ => ⟨none, max h (off + len + 2), none⟩
        else ⟨none, max h (off + len + 2), none⟩
      else ⟨none, h, none⟩ := by
  simp only [decT]
  rfl

theorem decListT_zero {d : Nat} {e : Ty} {off lim : Nat} :
    decListT bo buf nfds d e off lim 0 = ⟨if off = lim then some [] else none, off, none⟩ := by
  simp only [decListT]

theorem decListT_succ {d : Nat} {e : Ty} {off lim fuel : Nat} :
    decListT bo buf nfds d e off lim (fuel + 1) =
    if off = lim then ⟨some [], off, none⟩
    else
      match decT bo buf nfds d e off lim with
      | ⟨none, h, b⟩ => ⟨none, h, b⟩
      | ⟨some (v, o'), h, _⟩ =>
        match decListT bo buf nfds d e o' lim fuel with
        | ⟨none, h2, b2⟩ => ⟨none, max h h2, b2⟩
        | ⟨some vs, h2, b2⟩ => ⟨some (v :: vs), max h h2, b2⟩ := by
  simp only [decListT]
  rfl

theorem decEntriesT_zero {d : Nat} {k : Base} {vt : Ty} {off lim : Nat} :
    decEntriesT bo buf nfds d k vt off lim 0 = ⟨if off = lim then some [] else none, off, none⟩ := by
  simp only [decEntriesT]

theorem decEntriesT_succ {d : Nat} {k : Base} {vt : Ty} {off lim fuel : Nat} :
    decEntriesT bo buf nfds d k vt off lim (fuel + 1) =
    if off = lim then ⟨some [], off, none⟩
    else
      match skipPadT buf off lim 8 with
      | (none, h) => ⟨none, h, none⟩
      | (some o, h) =>
        match decBaseT bo buf nfds k o lim with
        | ⟨none, h1, _⟩ => ⟨none, max h h1, none⟩
        | ⟨some (kv, o1), h1, _⟩ =>
          match decT bo buf nfds d vt o1 lim with
          | ⟨none, h2, b⟩ => ⟨none, max (max h h1) h2, b⟩
          | ⟨some (vv, o2), h2, _⟩ =>
            match decEntriesT bo buf nfds d k vt o2 lim fuel with
            | ⟨none, h3, b3⟩ => ⟨none, max (max (max h h1) h2) h3, b3⟩
            | ⟨some es, h3, b3⟩ => ⟨some (.struct [kv, vv] :: es), max (max (max h h1) h2) h3, b3⟩ := by
  simp only [decEntriesT]
  rfl

theorem decFieldsT_nil {d : Nat} {off lim : Nat} :
    decFieldsT bo buf nfds d [] off lim = ⟨some ([], off), off, none⟩ := by
  simp only [decFieldsT]

theorem decFieldsT_cons {d : Nat} {t : Ty} {ts : List Ty} {off lim : Nat} :
    decFieldsT bo buf nfds d (t :: ts) off lim =
    match decT bo buf nfds d t off lim with
    | ⟨none, h, b⟩ => ⟨none, h, b⟩
    | ⟨some (v, o'), h, _⟩ =>
      match decFieldsT bo buf nfds d ts o' lim with
      | ⟨none, h2, b2⟩ => ⟨none, max h h2, b2⟩
      | ⟨some (vs, o''), h2, b2⟩ => ⟨some (v :: vs, o''), max h h2, b2⟩ := by
  simp only [decFieldsT]
  rfl
end unfold

/-- a high-water mark `h` that a step from `off` with limit `lim` may leave (`max`: a step entered at or beyond its
    limit looks at nothing, `h = off`) -/
def Within (off lim h : Nat) : Prop := off ≤ h ∧ h ≤ max off lim

theorem Within.refl {off lim : Nat} : Within off lim off := ⟨Nat.le_refl _, Nat.le_max_left ..⟩

theorem Within.of_le {off lim h : Nat} (h1 : off ≤ h) (h2 : h ≤ lim) : Within off lim h :=
  ⟨h1, Nat.le_trans h2 (Nat.le_max_right ..)⟩

theorem Within.trans {off lim o h : Nat} (a : Within off lim o) (b : Within o lim h) : Within off lim h :=
  ⟨Nat.le_trans a.1 b.1, Nat.le_trans b.2 (Nat.max_le.2 ⟨a.2, Nat.le_max_right ..⟩)⟩

theorem Within.trans_max {off lim o h : Nat} (a : Within off lim o) (b : Within o lim h) :
    Within off lim (max o h) := by
  rw [Nat.max_eq_right b.1]; exact a.trans b

section run
variable (bo : ByteOrder) (buf : List UInt8)

/-- refused from `off` on, having looked up to `h`; an oversized length word (at `q`) was the last thing looked at -/
def Stop (off lim h : Nat) (b : Option Nat) : Prop :=
  Within off lim h ∧ ∀ q, b = some q → h = q + 4 ∧ off ≤ q ∧ maxArrayLen < valOf bo (slice buf q 4)

/-- a step with plain result `p` ends accepted, having looked exactly up to `endOf x`, or refused as `Stop` says -/
def Run {α : Type} (off lim : Nat) (endOf : α → Nat) (r : Tr α) (p : Option α) : Prop :=
  (∃ x, p = some x ∧ r = ⟨some x, endOf x, none⟩ ∧ Within off lim (endOf x)) ∨
  (p = none ∧ ∃ h b, r = ⟨none, h, b⟩ ∧ Stop bo buf off lim h b)

variable {bo buf} {α : Type} {off lim h : Nat} {endOf : α → Nat}

theorem Run.ok {x : α} (hh : h = endOf x) (w : Within off lim (endOf x)) :
    Run bo buf off lim endOf ⟨some x, h, none⟩ (some x) := by
  subst hh; exact .inl ⟨x, rfl, rfl, w⟩

theorem Run.fail (w : Within off lim h) : Run bo buf off lim endOf ⟨none, h, none⟩ none :=
  .inr ⟨rfl, h, none, rfl, w, fun _ hq => by cases hq⟩

theorem Run.unmarked {e : Option α} (he : ∀ x, e = some x → h = endOf x) (w : Within off lim h) :
    Run bo buf off lim endOf ⟨e, h, none⟩ e := by
  cases e with
  | none => exact .fail w
  | some x => exact .ok (he x rfl) (he x rfl ▸ w)

theorem Run.stop {o lim' h' : Nat} {b : Option Nat} (s : Stop bo buf o lim' h b) (hh : h' = h)
    (w : Within off lim o) (hl : lim' ≤ lim) : Run bo buf off lim endOf ⟨none, h', b⟩ none := by
  subst hh
  obtain ⟨⟨s1, s2⟩, s3⟩ := s
  refine .inr ⟨rfl, _, b, rfl, w.trans ⟨s1, by omega⟩, fun q hq => ?_⟩
  obtain ⟨q1, q2, q3⟩ := s3 q hq
  exact ⟨q1, Nat.le_trans w.1 q2, q3⟩

theorem Run.res {r : Tr α} {p : Option α} (hr : Run bo buf off lim endOf r p) : r.res = p := by
  rcases hr with ⟨x, rfl, rfl, _⟩ | ⟨rfl, h, b, rfl, _⟩ <;> rfl
end run

section cases
variable (bo : ByteOrder) (buf : List UInt8)

theorem skipPadT_cases (off lim a : Nat) :
    (∃ h, skipPadT buf off lim a = (none, h) ∧ skipPad buf off lim a = none ∧ Within off lim h) ∨
    (∃ o, skipPadT buf off lim a = (some o, o) ∧ skipPad buf off lim a = some o ∧ Within off lim o) := by
  unfold skipPadT
  cases hs : skipPad buf off lim a with
  | none =>
    refine .inl ⟨_, rfl, rfl, ?_⟩
    split
    · exact .of_le (Nat.le_add_right ..) (And.left ‹_›)
    · exact .refl
  | some o =>
    obtain ⟨rfl, h1, h2, _⟩ := skipPad_iff.1 hs
    exact .inr ⟨_, by rw [if_pos ⟨h1, h2⟩], rfl, .of_le (Nat.le_add_right ..) h1⟩

theorem readNumT_cases (off lim k : Nat) :
    (∃ h, readNumT bo buf off lim k = (none, h) ∧ readNum bo buf off lim k = none ∧ Within off lim h) ∨
    (readNumT bo buf off lim k = (some (valOf bo (slice buf off k)), off + k) ∧
      readNum bo buf off lim k = some (valOf bo (slice buf off k)) ∧ Within off lim (off + k)) := by
  unfold readNumT readNum
  by_cases h1 : off + k ≤ lim ∧ lim ≤ buf.length
  · rw [if_pos h1, if_pos h1]; exact .inr ⟨rfl, rfl, .of_le (Nat.le_add_right ..) h1.1⟩
  · rw [if_neg h1, if_neg h1]; exact .inl ⟨_, rfl, rfl, .refl⟩
end cases

section main
variable {bo : ByteOrder} {buf : List UInt8} {nfds : Option Nat}

/-- bytes and NUL of a string-like whose length word has been read: `o` is the high-water mark so far, `e` the
    end of the string -/
theorem strTail_run {off lim o e : Nat} {c : Prop} [Decidable c] {v : Val} (w : Within off lim o) (h2 : o ≤ e) :
    Run bo buf off lim Prod.snd
      (if e ≤ lim then ⟨if c then some (v, e) else none, max o e, none⟩ else ⟨none, o, none⟩)
      (if e ≤ lim then if c then some (v, e) else none else none) := by
  split
  · rw [Nat.max_eq_right h2]
    refine .unmarked (fun x hx => ?_) (.of_le (Nat.le_trans w.1 h2) ‹_›)
    split at hx
    · cases hx; rfl
    · cases hx
  · exact .fail w

variable (bo buf nfds)

theorem decBaseT_run (b : Base) (off lim : Nat) :
    Run bo buf off lim Prod.snd (decBaseT bo buf nfds b off lim) (decBase bo buf nfds b off lim) := by
  unfold decBase
  cases hk : b.fixedSize with
  | some k =>
    unfold decBaseT
    rw [hk]
    rcases skipPadT_cases buf off lim b.align with ⟨h, eT, e, a⟩ | ⟨o, eT, e, a⟩ <;> simp only [eT, e]
    · exact .fail a
    · rcases readNumT_cases bo buf o lim k with ⟨h, eT, e, c⟩ | ⟨eT, e, c⟩ <;> simp only [eT, e]
      · exact .fail (a.trans_max c)
      · rw [Nat.max_eq_right (Nat.le_add_right o k)]
        refine .unmarked (fun x hx => ?_) (a.trans c)
        split at hx
        · split at hx
          · split at hx
            · cases hx; rfl
            · cases hx
          · cases hx; rfl
        · cases hx
  | none =>
    dsimp only
    -- `split` takes the first `match` it finds: while `decBaseT` is still folded that is the plain side's
    split
    · unfold decBaseT
      dsimp only [Base.fixedSize]
      rcases readNumT_cases bo buf off lim 1 with ⟨h, eT, e, c⟩ | ⟨eT, e, c⟩ <;> simp only [eT, e]
      · exact .fail c
      · exact strTail_run c (by omega)
    · rename_i hb
      unfold decBaseT
      rw [hk]
      dsimp only
      split
      · exact (hb rfl).elim
      · rcases skipPadT_cases buf off lim 4 with ⟨h, eT, e, a⟩ | ⟨o, eT, e, a⟩ <;> simp only [eT, e]
        · exact .fail a
        · rcases readNumT_cases bo buf o lim 4 with ⟨h, eT, e, c⟩ | ⟨eT, e, c⟩ <;> simp only [eT, e]
          · exact .fail (a.trans_max c)
          · rw [Nat.max_eq_right (Nat.le_add_right o 4)]
            exact strTail_run (a.trans c) (by omega)

/-- the instrumented decoder is a faithful run of the plain one, at budget `d` -/
def RunOk (d : Nat) : Prop :=
  ∀ (t : Ty) (off lim : Nat),
    Run bo buf off lim Prod.snd (decT bo buf nfds d t off lim) (dec bo buf nfds d t off lim)

variable {bo buf nfds} {d : Nat}

theorem decListT_run (h : RunOk bo buf nfds d) (e : Ty) (lim fuel off : Nat) :
    Run bo buf off lim (fun _ => lim) (decListT bo buf nfds d e off lim fuel)
      (decList bo buf nfds d e off lim fuel) := by
  induction fuel generalizing off with
  | zero =>
    rw [decListT_zero, decList_zero]
    refine .unmarked (fun x hx => ?_) .refl
    split at hx
    · assumption
    · cases hx
  | succ fuel ih =>
    rw [decListT_succ, decList_succ]
    split
    · exact .ok ‹_› (.of_le (Nat.le_of_eq ‹_›) (Nat.le_refl _))
    · rcases h e off lim with ⟨⟨v, o'⟩, ep, er, a⟩ | ⟨ep, hw, b, er, s⟩ <;> simp only [ep, er]
      · rcases ih o' with ⟨vs, ep, er, b⟩ | ⟨ep, hw, b, er, s⟩ <;> simp only [ep, er]
        · exact .ok (Nat.max_eq_right b.1) (a.trans b)
        · exact .stop s (Nat.max_eq_right s.1.1) a (Nat.le_refl _)
      · exact .stop s rfl .refl (Nat.le_refl _)

theorem decFieldsT_run (h : RunOk bo buf nfds d) (fs : List Ty) (lim off : Nat) :
    Run bo buf off lim Prod.snd (decFieldsT bo buf nfds d fs off lim) (decFields bo buf nfds d fs off lim) := by
  induction fs generalizing off with
  | nil =>
    rw [decFieldsT_nil, decFields_nil]
    exact .ok rfl .refl
  | cons t ts ih =>
    rw [decFieldsT_cons, decFields_cons]
    rcases h t off lim with ⟨⟨v, o'⟩, ep, er, a⟩ | ⟨ep, hw, b, er, s⟩ <;> simp only [ep, er]
    · rcases ih o' with ⟨⟨vs, o''⟩, ep, er, b⟩ | ⟨ep, hw, b, er, s⟩ <;> simp only [ep, er]
      · exact .ok (Nat.max_eq_right b.1) (a.trans b)
      · exact .stop s (Nat.max_eq_right s.1.1) a (Nat.le_refl _)
    · exact .stop s rfl .refl (Nat.le_refl _)

theorem decEntriesT_run (h : RunOk bo buf nfds d) (k : Base) (vt : Ty) (lim fuel off : Nat) :
    Run bo buf off lim (fun _ => lim) (decEntriesT bo buf nfds d k vt off lim fuel)
      (decEntries bo buf nfds d k vt off lim fuel) := by
  induction fuel generalizing off with
  | zero =>
    rw [decEntriesT_zero, decEntries_zero]
    refine .unmarked (fun x hx => ?_) .refl
    split at hx
    · assumption
    · cases hx
  | succ fuel ih =>
    rw [decEntriesT_succ, decEntries_succ]
    split
    · exact .ok ‹_› (.of_le (Nat.le_of_eq ‹_›) (Nat.le_refl _))
    · rcases skipPadT_cases buf off lim 8 with ⟨h0, eT, e, a⟩ | ⟨o, eT, e, a⟩ <;> simp only [eT, e]
      · exact .fail a
      · rcases decBaseT_run bo buf nfds k o lim with ⟨⟨kv, o1⟩, ep, er, b⟩ | ⟨ep, hw, b, er, s⟩ <;> simp only [ep, er]
        · rw [Nat.max_eq_right b.1]
          rcases h vt o1 lim with ⟨⟨vv, o2⟩, ep, er, c⟩ | ⟨ep, hw, b', er, s⟩ <;> simp only [ep, er]
          · rw [Nat.max_eq_right c.1]
            rcases ih o2 with ⟨es, ep, er, g⟩ | ⟨ep, hw, b', er, s⟩ <;> simp only [ep, er]
            · exact .ok (Nat.max_eq_right g.1) ((a.trans b).trans (c.trans g))
            · exact .stop s (Nat.max_eq_right s.1.1) ((a.trans b).trans c) (Nat.le_refl _)
          · exact .stop s (Nat.max_eq_right s.1.1) (a.trans b) (Nat.le_refl _)
        · rw [Nat.max_eq_right s.1.1]
          exact .fail (a.trans s.1)

/-- Against `.array t` for both callers: a dict is decoded as the array of its entry structs (`dec_dict_eq_array`). -/
theorem coll_run {off lim a : Nat} {t : Ty} {inner : Nat → Nat → Tr (List Val)} (ha : t.align = a)
    (hin : ∀ o2 len, Run bo buf o2 (o2 + len) (fun _ => o2 + len) (inner o2 len)
      (decList bo buf nfds d t o2 (o2 + len) len)) :
    Run bo buf off lim Prod.snd (collT bo buf a inner off lim) (dec bo buf nfds (d + 1) (.array t) off lim) := by
  unfold collT
  subst ha
  rw [dec_array]
  rcases skipPadT_cases buf off lim 4 with ⟨h0, eT, e, a⟩ | ⟨o, eT, e, a⟩ <;> simp only [eT, e]
  · exact .fail a
  · rcases readNumT_cases bo buf o lim 4 with ⟨h2, eT, e, b⟩ | ⟨eT, e, b⟩ <;> simp only [eT, e]
    · exact .fail (a.trans_max b)
    · rw [Nat.max_eq_right (Nat.le_add_right o 4)]
      split
      · rcases skipPadT_cases buf (o + 4) lim t.align with ⟨h3, eT, e, c⟩ | ⟨o2, eT, e, c⟩ <;> simp only [eT, e]
        · exact .fail ((a.trans b).trans_max c)
        · rw [Nat.max_eq_right c.1]
          split
          · rcases hin o2 (valOf bo (slice buf o 4)) with ⟨vs, ep, er, g⟩ | ⟨ep, hw, b', er, s⟩ <;> simp only [ep, er]
            · exact .ok (Nat.max_eq_right (Nat.le_add_right ..))
                (((a.trans b).trans c).trans (.of_le (Nat.le_add_right ..) ‹_›))
            · exact .stop s (Nat.max_eq_right s.1.1) ((a.trans b).trans c) ‹_›
          · exact .fail ((a.trans b).trans c)
      · exact .stop (o := o) ⟨b, fun q hq => by cases hq; exact ⟨rfl, Nat.le_refl _, by omega⟩⟩ rfl a (Nat.le_refl _)

theorem struct_run (h : RunOk bo buf nfds d) (fs : List Ty) (off lim : Nat) :
    Run bo buf off lim Prod.snd (decT bo buf nfds (d + 1) (.struct fs) off lim)
      (dec bo buf nfds (d + 1) (.struct fs) off lim) := by
  rw [decT_struct, dec_struct]
  split
  · exact .fail .refl
  · rcases skipPadT_cases buf off lim 8 with ⟨h0, eT, e, a⟩ | ⟨o, eT, e, a⟩ <;> simp only [eT, e]
    · exact .fail a
    · rcases decFieldsT_run h fs lim o with ⟨⟨vs, o'⟩, ep, er, g⟩ | ⟨ep, hw, b, er, s⟩ <;> simp only [ep, er]
      · exact .ok (Nat.max_eq_right g.1) (a.trans g)
      · exact .stop s (Nat.max_eq_right s.1.1) a (Nat.le_refl _)

theorem variant_run (h : RunOk bo buf nfds d) (off lim : Nat) :
    Run bo buf off lim Prod.snd (decT bo buf nfds (d + 1) .variant off lim)
      (dec bo buf nfds (d + 1) .variant off lim) := by
  rw [decT_variant, dec_variant]
  rcases readNumT_cases bo buf off lim 1 with ⟨h2, eT, e, b⟩ | ⟨eT, e, b⟩ <;> simp only [eT, e]
  · exact .fail b
  · rw [Nat.max_eq_right (show off + 1 ≤ off + valOf bo (slice buf off 1) + 2 by omega)]
    split
    · have w : Within off lim (off + valOf bo (slice buf off 1) + 2) := .of_le (by omega) ‹_›
      split
      · split
        · rename_i t hp
          rw [hp]
          rcases h t (off + valOf bo (slice buf off 1) + 2) lim with
            ⟨⟨v, o'⟩, ep, er, g⟩ | ⟨ep, hw, b', er, s⟩ <;> simp only [ep, er]
          · exact .ok (Nat.max_eq_right g.1) (w.trans g)
          · exact .stop s (Nat.max_eq_right s.1.1) w (Nat.le_refl _)
        · rename_i hno
          split
          · rename_i t hp; exact (hno t hp).elim
          · exact .fail w
      · exact .fail w
    · exact .fail b

variable (bo buf nfds)

theorem runOk_all (d : Nat) : RunOk bo buf nfds d := by
  -- strong induction: a dict's entries run two levels down (`decT_dict`), everything else one
  induction d using Nat.strongRecOn with
  | _ d ih =>
    intro t off lim
    cases d with
    | zero =>
      cases t with
      | base b => rw [decT_base, dec_base]; exact decBaseT_run bo buf nfds b off lim
      | _ =>
        rw [decT_zero, dec_zero]
        · exact .fail .refl
        all_goals exact fun _ => nofun
    | succ d =>
      cases t with
      | base b => rw [decT_base, dec_base]; exact decBaseT_run bo buf nfds b off lim
      | array e =>
        rw [decT_array]
        exact coll_run rfl fun o2 len => decListT_run (ih d (by omega)) e (o2 + len) len o2
      | dict k v =>
        cases d with
        | zero => rw [decT_dict_one, dec_dict_one]; exact .fail .refl
        | succ d' =>
          rw [decT_dict, dec_dict_eq_array]
          exact coll_run (t := .struct [.base k, v]) rfl fun o2 len => by
            rw [← decEntries_eq_decList]
            exact decEntriesT_run (ih d' (by omega)) k v (o2 + len) len o2
      | struct fs => exact struct_run (ih d (by omega)) fs off lim
      | variant => exact variant_run (ih d (by omega)) off lim
end main

theorem readNumT_ok (bo : ByteOrder) (pre suf : List UInt8) (k n lim : Nat)
    (hn : n < 256 ^ k) (hl : pre.length + k ≤ lim) (hl2 : lim ≤ pre.length + k + suf.length) :
    readNumT bo (pre ++ (bytesOf bo k n ++ suf)) pre.length lim k = (some n, pre.length + k) := by
  have hb : lim ≤ (pre ++ (bytesOf bo k n ++ suf)).length := by
    simp only [List.length_append, bytesOf_length]; omega
  rw [readNumT, readNum_iff.2 ⟨hl, hb, hn, hasAt_mid ..⟩, if_pos ⟨hl, hb⟩]

theorem parse_v : Sig.parseDescription (latin1 [118]) = some [.variant] := by rfl

/-- A tower of variants holding variants (signature `v`: the bytes 1, 118, 0) is abandoned where the budget
    runs out: with budget `k ≤ n` exactly the first `k` signatures are looked at. -/
theorem decT_variant_tower (bo : ByteOrder) (nfds : Option Nat) (f : Nat → List UInt8)
    (hf : ∀ n, f (n + 1) = [1, 118, 0] ++ f n) (k n : Nat) (hk : k ≤ n) (pre : List UInt8) (lim : Nat)
    (h1 : pre.length + 3 * k ≤ lim) (h2 : lim ≤ (pre ++ f n).length) :
    decT bo (pre ++ f n) nfds k .variant pre.length lim = ⟨none, pre.length + 3 * k, none⟩ := by
  induction k generalizing n pre with
  | zero => exact decT_zero fun _ => nofun
  | succ k ih =>
    obtain ⟨m, rfl⟩ : ∃ m, n = m + 1 := ⟨n - 1, by omega⟩
    rw [hf] at h2 ⊢
    simp only [List.length_append, List.length_cons, List.length_nil] at h2
    have ih' : decT bo (pre ++ ([1, 118, 0] ++ f m)) nfds k .variant (pre.length + 1 + 2) lim =
        ⟨none, pre.length + 1 + 2 + 3 * k, none⟩ := by
      have := ih m (by omega) (pre ++ [1, 118, 0])
        (by simp only [List.length_append, List.length_cons, List.length_nil]; omega)
        (by simp only [List.length_append, List.length_cons, List.length_nil]; omega)
      rwa [List.append_assoc, List.length_append] at this
    have e : pre ++ ([1, 118, 0] ++ f m) = pre ++ (bytesOf bo 1 1 ++ ([118] ++ ([0] ++ f m))) := by
      rw [bytesOf_one bo 1 (by decide)]; rfl
    have s1 := slice_mid (pre ++ bytesOf bo 1 1) [118] ([0] ++ f m) (pre.length + 1) 1 (by simp) rfl
    have s2 := slice_mid (pre ++ (bytesOf bo 1 1 ++ [118])) [0] (f m) (pre.length + 1 + 1) 1 (by simp) rfl
    simp only [List.append_assoc] at s1 s2
    rw [decT_variant, e, readNumT_ok bo pre _ 1 1 lim (by decide) (by omega)
      (by simp only [List.length_append, List.length_cons, List.length_nil]; omega)]
    dsimp only
    rw [if_pos (by omega), s1, s2, if_pos rfl, parse_v]
    dsimp only
    rw [← e, ih']
    dsimp only
    congr 1
    omega

end Rustbus.Limits
