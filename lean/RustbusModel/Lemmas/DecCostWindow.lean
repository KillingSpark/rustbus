import RustbusModel.Lemmas.HeaderFixed
import RustbusModel.Lemmas.HeaderField
/-!
What the decoders look at, and why their loops stop. A decode that succeeds can be replayed on any buffer that holds
the same bytes in the consumed window (`dec_replay`), so a rejection carries over as well: the result depends on the
window alone (`dec_window`). Every element consumes at least one byte, so an element loop whose fuel covers the bytes
left computes the same with any more (`fuel_stable`). Both once for `dec` and once for the header decoder, whose
fields are array elements of type `(yv)` read by `dec`.
-/
namespace Rustbus.Wire
open Rustbus.Bytes

theorem dec_window {bo : ByteOrder} {buf buf' : List UInt8} {nfds : Option Nat} {d : Nat} {t : Ty} {off lim : Nat}
    (hs : ∀ k, off + k ≤ lim → slice buf off k = slice buf' off k)
    (hl : lim ≤ buf.length ↔ lim ≤ buf'.length) :
    dec bo buf nfds d t off lim = dec bo buf' nfds d t off lim := by
  have one : ∀ {b b' : List UInt8}, (∀ k, off + k ≤ lim → slice b off k = slice b' off k) →
      (lim ≤ b.length → lim ≤ b'.length) → ∀ r, dec bo b nfds d t off lim = some r →
      dec bo b' nfds d t off lim = some r := by
    intro b b' hs hl (v, o') h
    obtain ⟨h1, h2, h3, _, _, h6⟩ := enc_dec h
    exact dec_replay h (hs _ (by omega)).symm h2 (hl h3) id h6
  cases h : dec bo buf nfds d t off lim with
  | some r => exact (one hs hl.1 r h).symm
  | none =>
    cases h' : dec bo buf' nfds d t off lim with
    | none => rfl
    | some r => rw [one (fun k hk => (hs k hk).symm) hl.2 r h'] at h; cases h

theorem dec_agree {bo : ByteOrder} {buf buf' : List UInt8} {nfds : Option Nat} {d : Nat} {t : Ty} {off lim : Nat}
    (h : buf.take lim = buf'.take lim) : dec bo buf nfds d t off lim = dec bo buf' nfds d t off lim :=
  dec_window (slice_of_take_eq h off) (agree_len h)

theorem fuel_stable {α : Type} {F : Nat → α} {n : Nat} (h : ∀ f, n ≤ f → F (f + 1) = F f) {f1 f2 : Nat}
    (h1 : n ≤ f1) (h2 : n ≤ f2) : F f1 = F f2 := by
  have to_n : ∀ f, n ≤ f → F f = F n := by
    intro f hf
    induction hf with
    | refl => rfl
    | step hf ih => rw [h _ hf, ih]
  rw [to_n f1 h1, to_n f2 h2]

theorem dec_none_of_le {bo : ByteOrder} {buf : List UInt8} {nfds : Option Nat} {d : Nat} {t : Ty} {off lim : Nat}
    (h : lim ≤ off) : dec bo buf nfds d t off lim = none := by
  cases hd : dec bo buf nfds d t off lim with
  | none => rfl
  | some p => have := dec_bounds hd; omega

theorem decList_fuel_succ (bo : ByteOrder) (buf : List UInt8) (nfds : Option Nat) (d : Nat) (e : Ty)
    (off lim f : Nat) (h : lim - off ≤ f) :
    decList bo buf nfds d e off lim (f + 1) = decList bo buf nfds d e off lim f := by
  induction f generalizing off with
  | zero => rw [decList_succ, decList_zero, dec_none_of_le (Nat.le_of_sub_eq_zero (Nat.le_zero.1 h))]
  | succ f ih =>
    rw [decList_succ, decList_succ (fuel := f)]
    cases hd : dec bo buf nfds d e off lim with
    | none => rfl
    | some p =>
      have := (dec_bounds hd).1
      simp only [ih p.2 (by omega)]

theorem decList_fuel {bo : ByteOrder} {buf : List UInt8} {nfds : Option Nat} {d : Nat} {e : Ty} {off lim f1 f2 : Nat}
    (h1 : lim - off ≤ f1) (h2 : lim - off ≤ f2) :
    decList bo buf nfds d e off lim f1 = decList bo buf nfds d e off lim f2 :=
  fuel_stable (fun f => decList_fuel_succ bo buf nfds d e off lim f) h1 h2

theorem decEntries_fuel {bo : ByteOrder} {buf : List UInt8} {nfds : Option Nat} {d : Nat} {k : Base} {vt : Ty}
    {off lim f1 f2 : Nat} (h1 : lim - off ≤ f1) (h2 : lim - off ≤ f2) :
    decEntries bo buf nfds d k vt off lim f1 = decEntries bo buf nfds d k vt off lim f2 := by
  rw [decEntries_eq_decList, decEntries_eq_decList]
  exact decList_fuel h1 h2

end Rustbus.Wire

namespace Rustbus.Header
open Rustbus.Bytes Rustbus.Wire

theorem decodeField_agree {buf buf' : List UInt8} {lim : Nat} (h : buf.take lim = buf'.take lim)
    (bo : ByteOrder) (off : Nat) :
    decodeField bo buf off lim = decodeField bo buf' off lim :=
  Option.ext fun (f?, o') => by simp only [decodeField_iff, dec_agree h]

theorem decodeFields_agree {buf buf' : List UInt8} {lim : Nat} (h : buf.take lim = buf'.take lim)
    (bo : ByteOrder) (fuel off : Nat) :
    decodeFields bo buf off lim fuel = decodeFields bo buf' off lim fuel := by
  induction fuel generalizing off with
  | zero => simp only [decodeFields]
  | succ f ih => simp only [decodeFields, decodeField_agree h, ih]

theorem decodeHeader_agree {buf buf' : List UInt8} {fx : Fixed} {fs : List Field} {used : Nat}
    (hd : decodeHeader buf = some (fx, fs, used)) (h : buf.take used = buf'.take used)
    (hlen : used ≤ buf'.length) :
    decodeHeader buf' = some (fx, fs, used) := by
  obtain ⟨len, h1, h2, hl, h3, hok, rfl⟩ := decodeHeader_eq_some.1 hd
  have hnum : readNum fx.bo buf' 12 buf'.length 4 = some len := by
    rw [readNum, if_pos ⟨by omega, Nat.le_refl _⟩] at h2
    rwa [readNum, if_pos ⟨by omega, Nat.le_refl _⟩, ← slice_of_take_eq h 12 4 (by omega)]
  exact decodeHeader_eq_some.2 ⟨len, decodeFixed_reads_12 buf buf' (agree_mono h (by omega)) ▸ h1, hnum, hlen,
    decodeFields_agree h .. ▸ h3, hok, rfl⟩

theorem decodeField_progress {bo : ByteOrder} {buf : List UInt8} {off lim : Nat} {f? : Option Field} {o' : Nat}
    (h : decodeField bo buf off lim = some (f?, o')) : off < o' ∧ o' ≤ lim := by
  obtain ⟨e, hd, _⟩ := decodeField_iff.1 h
  obtain ⟨h1, h2, -⟩ := dec_bounds hd
  exact ⟨h1, h2⟩

theorem decodeFields_fuel_succ (bo : ByteOrder) (buf : List UInt8) (off lim f : Nat) (h : lim - off ≤ f) :
    decodeFields bo buf off lim (f + 1) = decodeFields bo buf off lim f := by
  induction f generalizing off with
  | zero =>
    simp only [decodeFields]
    cases hd : decodeField bo buf off lim with
    | none => rfl
    | some p => have := decodeField_progress hd; omega
  | succ f ih =>
    rw [decodeFields, decodeFields.eq_def bo buf off lim (f + 1)]
    cases hd : decodeField bo buf off lim with
    | none => rfl
    | some p =>
      have := decodeField_progress hd
      simp only [ih p.2 (by omega)]

theorem decodeFields_fuel {bo : ByteOrder} {buf : List UInt8} {off lim f1 f2 : Nat}
    (h1 : lim - off ≤ f1) (h2 : lim - off ≤ f2) :
    decodeFields bo buf off lim f1 = decodeFields bo buf off lim f2 :=
  fuel_stable (fun f => decodeFields_fuel_succ bo buf off lim f) h1 h2

end Rustbus.Header
