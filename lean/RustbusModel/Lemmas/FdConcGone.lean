import RustbusModel.Lemmas.FdConcInv
/-!
Once the cell holds -1 it stays so, and every operation that has not yet executed its load reports "gone"
(`stepThread_gone`, `run_gone`); the harness' coarse schedules are schedules (`runCoarse_refines`).
-/
namespace Rustbus.FdConc

/-- the result the thread's current operation is going to report (if any) cannot be a descriptor,
    provided the cell holds -1 from now on -/
def Pc.clean : Pc → Bool
  | .idle | .takeLoad | .getLoad | .dupLoad | .dupLoadF | .dropDec => true
  | .takeDec none => true
  | .takeDec (some _) => false
  | .innerDrop k | .dropLoad k | .dropCas k _ | .dropClose k _ => !k.seesFd
  | _ => false

/-- the operation has been invoked at most, none of its atomic steps on the cell has happened -/
def Pc.beforeFirstStep : Pc → Bool
  | .idle | .takeLoad | .getLoad | .dupLoad | .dupLoadF => true
  | _ => false

theorem clean_of_beforeFirstStep {pc : Pc} (h : pc.beforeFirstStep = true) : pc.clean = true := by
  cases pc <;> simp_all [Pc.beforeFirstStep, Pc.clean]

/-- With -1 in the cell every load reads -1 and every compare_exchange fails; in each branch that is possible
    at all the `pc` of `th'` or its new result can be read off. -/
theorem stepThread_gone {sh sh' : Shared} {th th' : Thread} {acts : List Act}
    (h : stepThread sh th = some (sh', th', acts)) (hg : sh.inner = -1) :
    sh'.inner = -1 ∧
    ((th'.results = th.results ∧ (th.pc.clean = true → th'.pc.clean = true)) ∨
     (∃ r, th'.results = th.results ++ [r] ∧ th'.pc = .idle ∧ (th.pc.clean = true → r.seesFd = false))) := by
  revert h hg
  -- the opening of `stepThread_local`; the case numbers are explained there
  fun_cases stepThread sh th
  case' case14 r _ => cases r
  case' case14.some | case14.none | case23 => fun_cases decrement sh th _
  case' case15 => split
  all_goals
    intro h
    cases h
  all_goals
    simp [Pc.clean, Thread.finish, Res.seesFd, *]

theorem run_gone {s : List Nat} {c1 c2 : Config} (h : run c1 s = some c2) (hg : c1.sh.inner = -1)
    {t : Nat} {th1 : Thread} (ht : c1.threads[t]? = some th1) :
    ∃ th2 new, c2.threads[t]? = some th2 ∧ th2.results = th1.results ++ new ∧
      (th1.pc.clean = true → th2.pc.clean = true ∧ ∀ r ∈ new, r.seesFd = false) ∧
      (new = [] ∨ (th2.pc.clean = true ∧ ∀ r ∈ new.tail, r.seesFd = false)) := by
  induction s generalizing c1 th1 with
  | nil =>
    cases h
    exact ⟨th1, [], ht, by simp, fun hc => ⟨hc, by simp⟩, Or.inl rfl⟩
  | cons u s ih =>
    obtain ⟨cm, hcm, h⟩ := run_cons.mp h
    obtain ⟨th, sh', th', acts, hth, hst, rfl⟩ := step_unfold hcm
    obtain ⟨hg', hcase⟩ := stepThread_gone hst hg
    by_cases hut : u = t
    · subst hut
      cases hth.symm.trans ht
      have hget : (c1.threads.set u th')[u]? = some th' := by
        simp [(List.getElem?_eq_some_iff.mp hth).1]
      obtain ⟨th2, new, h2, hres, hcl, htl⟩ := ih h hg' hget
      refine ⟨th2, ?_⟩
      rcases hcase with ⟨hr, hc⟩ | ⟨r, hr, hidle, hc⟩
      · exact ⟨new, h2, by rw [hres, hr], fun hclean => hcl (hc hclean), htl⟩
      · -- `th'` is idle, hence clean: all of `new` is "gone", and `r` is the head of the new results
        have hcl' := hcl (by rw [hidle]; rfl)
        refine ⟨r :: new, h2, by rw [hres, hr, List.append_assoc]; rfl, fun hclean => ⟨hcl'.1, ?_⟩, .inr hcl'⟩
        intro x hx
        rcases List.mem_cons.mp hx with rfl | hx
        · exact hc hclean
        · exact hcl'.2 x hx
    · exact ih h hg' (by rw [List.getElem?_set_ne hut]; exact ht)

theorem run_inner_gone {s : List Nat} {c1 c2 : Config} (h : run c1 s = some c2) (hg : c1.sh.inner = -1) :
    c2.sh.inner = -1 := by
  refine run_invariant (P := fun c => c.sh.inner = -1) ?_ hg h
  intro c t c' hc hs
  obtain ⟨_, _, _, _, _, hst, rfl⟩ := step_unfold hs
  exact (stepThread_gone hst hc).1

theorem run_append (s1 s2 : List Nat) (c : Config) :
    run c (s1 ++ s2) = (run c s1).bind (fun c' => run c' s2) := by
  induction s1 generalizing c with
  | nil => simp [run]
  | cons t s1 ih =>
    simp only [List.cons_append, run]
    cases step c t with
    | none => simp
    | some c' => simp only [ih]

theorem grant_refines {c c' : Config} {t : Nat} (h : grant c t = some c') :
    run c [t] = some c' ∨ run c [t, t] = some c' := by
  unfold grant at h
  split at h
  · cases h
  · rename_i c1 hc1
    split at h
    · cases h
    · split at h
      · cases h
        left; simp [run, hc1]
      · right; simp [run, hc1, h]

theorem runCoarse_refines {s : List Nat} {c c' : Config} (h : runCoarse c s = some c') :
    ∃ s', run c s' = some c' := by
  induction s generalizing c with
  | nil => exact ⟨[], h⟩
  | cons t s ih =>
    simp only [runCoarse] at h
    split at h
    · cases h
    · rename_i cm hcm
      obtain ⟨s', hs'⟩ := ih h
      rcases grant_refines hcm with g | g
      · exact ⟨[t] ++ s', by rw [run_append, g]; simpa using hs'⟩
      · exact ⟨[t, t] ++ s', by rw [run_append, g]; simpa using hs'⟩

end Rustbus.FdConc
