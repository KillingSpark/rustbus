import RustbusModel.Lemmas.RecvRun
/-!
C09, the peer hangs up: everything it wrote has ARRIVED in the receiver's socket (`AllArrived`) and nothing more will
come. While unread bytes are queued a `recvmsg` cannot block, so a blocking `get_next_message` returns the next frame,
whatever (positive) amounts the kernel hands over per call.
-/
namespace Rustbus.Recv

variable {p : Frame → Nat}

/-- the state of the socket after a hang-up: every cell the peer wrote is queued (`avail` covers `rest`) -/
def AllArrived (w : World) : Prop := w.rest.length ≤ w.avail

theorem refill_all_arrived {st : State} {w : World} {nd k : Nat} (hlt : st.buf.length < nd) (hk : 0 < k)
    (hr : w.rest ≠ []) (hav : AllArrived w) :
    (refill st w nd k).1 = .readOk ∧ st.buf.length < (refill st w nd k).2.1.buf.length ∧
      AllArrived (refill st w nd k).2.2 := by
  have hg : granted w (request st nd) k ≠ 0 := granted_ne_zero.mpr
    ⟨Nat.ne_of_gt hk, refill_request_pos hlt, Nat.ne_of_gt (Nat.lt_of_lt_of_le (List.length_pos_iff.mpr hr) hav), hr⟩
  rw [refill_short hlt, if_neg hg]
  refine ⟨rfl, ?_, ?_⟩
  · rw [State.read_buf_length, List.length_take, Nat.min_eq_left (granted_le_rest ..)]
    exact Nat.lt_add_of_pos_right (Nat.pos_of_ne_zero hg)
  · show (w.rest.drop _).length ≤ min w.avail w.rest.length - _
    rw [List.length_drop, Nat.min_eq_right hav]
    exact Nat.le_refl _

/-- every `recvmsg` makes progress, so one positive answer per missing byte is enough to complete the current frame -/
theorem readWhole_all_arrived {todo : List Frame} (hne : todo ≠ []) :
    ∀ (ks : List Nat) {st : State} {w : World}, Inv p todo st w → AllArrived w → (∀ k ∈ ks, 0 < k) →
      (hd todo).bytes.length - st.buf.length ≤ ks.length →
      (readWhole st w (ks.map Ev.deliver)).1 = .readOk ∧ AllArrived (readWhole st w (ks.map Ev.deliver)).2.2
  | ks, st, w, hI, hav, hpos, hlen => by
    have hc := hI.check_eq
    by_cases heq : st.buf.length = (hd todo).bytes.length
    · rw [readWhole_whole (by rw [hc, if_pos ⟨heq, hne⟩])]
      exact ⟨rfl, hav⟩
    · rw [if_neg (fun h => heq h.1)] at hc
      have hlt := Nat.lt_of_le_of_ne hI.le heq
      match ks with
      | [] => exact absurd (Nat.sub_pos_of_lt hlt) (Nat.not_lt.mpr hlen)
      | k :: ks =>
        obtain ⟨hr, hprog, hav1⟩ :=
          refill_all_arrived (k := k) (check_need hc).1 (hpos k List.mem_cons_self) (hI.rest_ne_nil hlt) hav
        rw [List.map_cons, readWhole_deliver hc hr]
        exact readWhole_all_arrived hne ks (refill_inv hI (want_le todo st) k) hav1
          (fun k' hk' => hpos k' (List.mem_cons_of_mem _ hk')) (by simp only [List.length_cons] at hlen; omega)

theorem getNext_all_arrived {f : Frame} {fs : List Frame} {st : State} {w : World}
    (hI : Inv p (f :: fs) st w) (hav : AllArrived w)
    (ks : List Nat) (hpos : ∀ k ∈ ks, 0 < k) (hlen : f.bytes.length - st.buf.length ≤ ks.length) :
    ∃ w', getNext st w (ks.map Ev.deliver) = (.msg f.bytes f.fds, State.empty, w') ∧
      Inv p fs State.empty w' ∧ AllArrived w' := by
  obtain ⟨hr, hav1⟩ := readWhole_all_arrived (List.cons_ne_nil f fs) ks hI hav hpos hlen
  rcases getNext_inv hI (ks.map Ev.deliver) with ⟨_, _, h, hg, hI'⟩ | ⟨ht, _⟩
  · cases h; exact ⟨_, hg, hI', hav1⟩
  · cases hr.symm.trans ht

/-- the blocking calls the caller makes after the hang-up: one `get_next_message` per list of kernel answers -/
def drainCalls (kss : List (List Nat)) : List Action := kss.map (fun ks => Action.call .getNext (ks.map Ev.deliver))

/-- per remaining frame a list of POSITIVE kernel answers, at least one per byte of the frame (the worst case: one
    byte per `recvmsg`) -/
def Enough : List Frame → List (List Nat) → Prop
  | [], [] => True
  | f :: fs, ks :: kss => (∀ k ∈ ks, 0 < k) ∧ f.bytes.length ≤ ks.length ∧ Enough fs kss
  | _, _ => False

theorem drain_all_arrived : ∀ (todo : List Frame) (kss : List (List Nat)) {st : State} {w : World},
    Inv p todo st w → AllArrived w → Enough todo kss →
    ∃ st' w', run st w (drainCalls kss) = (todo.map (fun f => Res.msg f.bytes f.fds), st', w') ∧
      Inv p [] st' w'
  | [], [], st, w, hI, _, _ => ⟨st, w, rfl, hI⟩
  | [], _ :: _, _, _, _, _, hen => hen.elim
  | _ :: _, [], _, _, _, _, hen => hen.elim
  | f :: fs, ks :: kss, st, w, hI, hav, ⟨hpos, hlen, hen⟩ => by
    obtain ⟨w1, hg, hI1, hav1⟩ := getNext_all_arrived hI hav ks hpos (Nat.le_trans (Nat.sub_le ..) hlen)
    obtain ⟨st2, w2, hr, hI2⟩ := drain_all_arrived fs kss hI1 hav1 hen
    refine ⟨st2, w2, ?_, hI2⟩
    simp only [drainCalls, List.map_cons, run_call, step, hg]
    simp only [drainCalls] at hr
    rw [hr]

end Rustbus.Recv
