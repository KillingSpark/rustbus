import RustbusModel.Model.PeerReply
/-!
C20: the hex formatter gives the width it is asked for, in upper-case hex digits (`fmtHexMin_len`,
`fmtHexMin_allHex`); what serving one message does to the id file and which ids it writes
(`handlePeerMessage_ids`), and the same over a serving history (`served_ids`).
-/
namespace Rustbus.PeerId

/-- `0`–`9` or `A`–`F`: the characters `{:X}` prints -/
def isHexUpper (c : Char) : Bool :=
  ('0' ≤ c ∧ c ≤ '9') ∨ ('A' ≤ c ∧ c ≤ 'F')

theorem hexUpper_isHex : ∀ n < 16, isHexUpper (hexUpper n) = true := by decide +kernel

theorem hexDigitsAux_len (fuel : Nat) : ∀ (k n : Nat) (acc : List Char), k < fuel → n < 16 ^ (k + 1) →
    (hexDigitsAux fuel n acc).length ≤ k + 1 + acc.length := by
  induction fuel with
  | zero => exact fun _ _ _ h => absurd h (Nat.not_lt_zero _)
  | succ f ih =>
    intro k n acc hk hn
    unfold hexDigitsAux
    split
    · rw [List.length_cons]; omega
    · rename_i h16
      cases k with
      | zero => exact absurd hn h16
      | succ k =>
        have := ih k (n / 16) (hexUpper (n % 16) :: acc) (Nat.lt_of_succ_lt_succ hk)
          (Nat.div_lt_of_lt_mul (by rwa [Nat.mul_comm, ← Nat.pow_succ]))
        rw [List.length_cons] at this
        omega

theorem hexDigitsAux_allHex (fuel : Nat) : ∀ (n : Nat) (acc : List Char),
    acc.all isHexUpper = true → (hexDigitsAux fuel n acc).all isHexUpper = true := by
  induction fuel with
  | zero => exact fun _ _ h => h
  | succ f ih =>
    intro n acc h
    unfold hexDigitsAux
    split
    · rename_i hn
      rw [List.all_cons, hexUpper_isHex n hn, h]; rfl
    · apply ih
      rw [List.all_cons, hexUpper_isHex _ (Nat.mod_lt _ (by decide)), h]; rfl

theorem fmtHexMin_len (w n : Nat) (hw : 1 ≤ w) (hw16 : w ≤ 16) (hn : n < 16 ^ w) :
    (fmtHexMin w n).length = w := by
  obtain ⟨k, rfl⟩ : ∃ k, w = k + 1 := ⟨w - 1, by omega⟩
  rw [fmtHexMin, List.length_append, List.length_replicate]
  exact Nat.sub_add_cancel (hexDigitsAux_len 16 k n [] hw16 hn)

theorem fmtHexMin_allHex (w n : Nat) : (fmtHexMin w n).all isHexUpper = true := by
  rw [fmtHexMin, List.all_append, List.all_replicate, hexDigits, hexDigitsAux_allHex 16 n [] rfl]
  simp [isHexUpper]

theorem getMachineId_snd (cell : Option (List Char)) (r1 r2 secs : Nat) :
    (getMachineId cell r1 r2 secs).2 = some (getMachineId cell r1 r2 secs).1 := by
  cases cell <;> rfl

theorem getMachineId_snd_cases (cell : Option (List Char)) (r1 r2 secs : Nat) :
    (getMachineId cell r1 r2 secs).2 = cell ∨
      cell = none ∧ (getMachineId cell r1 r2 secs).2 = some (formatMachineUuid r1 r2 secs) := by
  cases cell
  · exact .inr ⟨rfl, rfl⟩
  · exact .inl rfl

/-- One message: every id its replies carry is what the file holds afterwards, and the file is as before, or was
    empty and now holds the id formatted from this message's draw. Every statement about ids over a history rests
    on this alone. -/
theorem handlePeerMessage_ids (m : Incoming) (cell : Option (List Char)) :
    (∀ id ∈ (handlePeerMessage m cell).2.1.flatMap (fun r => r.body.toList),
      (handlePeerMessage m cell).2.2 = some id) ∧
    ((handlePeerMessage m cell).2.2 = cell ∨
      cell = none ∧ (handlePeerMessage m cell).2.2 = some (formatMachineUuid m.r1 m.r2 m.secs)) := by
  have none_served : ∀ {c : Option (List Char)}, ∀ id ∈ ([] : List (List Char)), c = some id :=
    fun _ h => absurd h List.not_mem_nil
  unfold handlePeerMessage handleCall
  cases m.isCall
  · exact ⟨none_served, .inl rfl⟩
  cases handlePeer m.iface m.member with
  | notHandled => exact ⟨none_served, .inl rfl⟩
  | replied b =>
    cases b
    · cases m.wrote <;> exact ⟨none_served, .inl rfl⟩
    · have h1 := getMachineId_snd cell m.r1 m.r2 m.secs
      have h2 := getMachineId_snd_cases cell m.r1 m.r2 m.secs
      cases m.wrote
      · exact ⟨none_served, h2⟩
      · exact ⟨fun id hid => by cases List.mem_singleton.mp hid; exact h1, h2⟩

/-- the ids in the bodies of all replies of a serving history -/
def idsServed (outs : List (HRes × List Reply)) : List (List Char) :=
  outs.flatMap (fun o => o.2.flatMap (fun r => r.body.toList))

theorem idsServed_serve_cons (cell : Option (List Char)) (m : Incoming) (ms : List Incoming) :
    idsServed (serve cell (m :: ms)) =
      (handlePeerMessage m cell).2.1.flatMap (fun r => r.body.toList) ++
        idsServed (serve (handlePeerMessage m cell).2.2 ms) := rfl

/-- the proof takes for `c` what the file holds at the end -/
theorem served_ids (ms : List Incoming) : ∀ cell : Option (List Char), ∃ c : Option (List Char),
    (∀ id ∈ idsServed (serve cell ms), c = some id) ∧
    (c = cell ∨ cell = none ∧ ∃ m ∈ ms, c = some (formatMachineUuid m.r1 m.r2 m.secs)) := by
  induction ms with
  | nil => exact fun cell => ⟨cell, fun _ h => absurd h List.not_mem_nil, .inl rfl⟩
  | cons m ms ih =>
    intro cell
    obtain ⟨hid, hc⟩ := handlePeerMessage_ids m cell
    obtain ⟨c, hids, hc'⟩ := ih (handlePeerMessage m cell).2.2
    refine ⟨c, fun id h => ?_, ?_⟩
    · rw [idsServed_serve_cons] at h
      rcases List.mem_append.mp h with h | h
      · have h1 := hid id h
        rcases hc' with rfl | ⟨h0, _⟩
        · exact h1
        · exact nomatch h0.symm.trans h1
      · exact hids id h
    · rcases hc' with rfl | ⟨h0, m', hm', rfl⟩
      · rcases hc with hc | ⟨hn, hc⟩
        · exact .inl hc
        · exact .inr ⟨hn, m, List.mem_cons_self, hc⟩
      · rcases hc with hc | ⟨_, hc⟩
        · exact .inr ⟨hc.symm.trans h0, m', List.mem_cons_of_mem m hm', rfl⟩
        · exact nomatch h0.symm.trans hc

end Rustbus.PeerId
