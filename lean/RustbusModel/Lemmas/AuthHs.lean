import RustbusModel.Lemmas.AuthAddr
import RustbusModel.Lemmas.AuthLine
/-!
C17, `read_message` and the handshake.

`read_message`: every script has one of two shapes, a line arrives or the reads stop (`readMessage_cases`,
in the specification's vocabulary `LineRead` / `StopRead`).

The handshake: `connect_to_bus` goes through a fixed list of steps, each "write this line" or "read a
line and test its keyword", and gives up at the first that fails. `exec` runs any such list, and
`connectFrom` is `exec` on the list `handshake`. What holds of a run however it ends is proved for every
list of steps, by induction on `Exec`; the theorems about success and rejection are read off `Ran`.
`exec_sim`: two scripts that carry the same stream drive every list of steps alike.
-/
namespace Rustbus.Auth

/-- the state after `read_message` took the reads `cs`, holding the line `l`, its CRLF and `extra` -/
def St.read (a : St) (cs : List (List UInt8)) (l extra : List UInt8) (rest : List Ev) : St :=
  { a with script := rest, reads := a.reads + cs.length, consumed := a.consumed + cs.flatten.length,
           replies := a.replies ++ [⟨l, extra⟩] }

/-- the state after `read_message` took the reads `cs` and then met the stop at the head of `stp` -/
def St.stopped (a : St) (cs : List (List UInt8)) (stp : List Ev) : St :=
  { a with script := stp.tail, reads := a.reads + cs.length + 1,
           consumed := a.consumed + cs.flatten.length }

/-- the state after a write of `raw` that went through -/
def St.wrote (a : St) (raw : List UInt8) : St :=
  { a with written := a.written ++ [raw], nwrites := a.nwrites + 1 }

theorem readMessage_chunks {a : St} {cs : List (List UInt8)} {rest : List Ev} {l extra : List UInt8}
    (hs : a.script = cs.map Ev.chunk ++ rest) (hb : cs.flatten = l ++ crlf ++ extra)
    (hne : ∀ c ∈ cs, c ≠ []) (hfirst : hasLineEnding (l ++ [13]) = false)
    (hlazy : ∀ cs', cs' <+: cs → cs' ≠ cs → hasLineEnding cs'.flatten = false) :
    readMessage a =
      (a.read cs l extra rest, if Utf8.valid l then .ok l else .error .invalidData) := by
  have hloop := readLoop_line cs [] rest hne hlazy (hb ▸ hasLineEnding_append_crlf l extra)
  have hfind : findLineEnding cs.flatten = some l.length := hb ▸ findLineEnding_append_crlf l extra hfirst
  have ht : cs.flatten.take l.length = l := by simp [hb]
  have hd : cs.flatten.drop (l.length + 2) = extra := by simp [hb, crlf]
  unfold readMessage
  simp only [hs, hloop, List.nil_append, hfind, ht, hd]
  split <;> rfl

theorem readMessage_line {a : St} {cs : List (List UInt8)} {s : List Ev} {l : List UInt8}
    (hs : a.script = cs.map Ev.chunk ++ s) (hb : cs.flatten = l ++ crlf) (hne : ∀ c ∈ cs, c ≠ [])
    (hl : hasLineEnding l = false) :
    readMessage a = (a.read cs l [] s, if Utf8.valid l then .ok l else .error .invalidData) :=
  readMessage_chunks hs (by rw [hb, List.append_nil]) hne (hasLineEnding_append_cr hl)
    fun _ hp hn => hasLineEnding_proper_prefix hl (hb ▸ (flatten_proper_prefix hne hp hn).1)
      (hb ▸ (flatten_proper_prefix hne hp hn).2)

theorem readMessage_stop {a : St} {cs : List (List UInt8)} {s : List Ev} {f : Fail}
    (hs : a.script = cs.map Ev.chunk ++ s) (hne : ∀ c ∈ cs, c ≠ [])
    (hp : hasLineEnding cs.flatten = false) (hst : Stops s f) :
    readMessage a = (a.stopped cs s, .error f) := by
  unfold readMessage
  simp only [hs, readLoop_stop cs [] s f hne hp hst]
  rfl

theorem readMessage_cases (a : St) :
    (∃ cs l extra rest, LineRead a (a.read cs l extra rest) cs l extra ∧
      readMessage a =
        (a.read cs l extra rest, if Utf8.valid l then .ok l else .error .invalidData)) ∨
    (∃ cs stp f, StopRead a (a.stopped cs stp) cs f ∧
      readMessage a = (a.stopped cs stp, .error f)) := by
  obtain ⟨cs, t, hs, hne, hlazy, hstop⟩ := script_split a.script []
  cases h : hasLineEnding cs.flatten
  · obtain ⟨f, hf⟩ := hstop h
    exact .inr ⟨cs, t, f, ⟨hne, ⟨t, hf, hs, rfl⟩, h, rfl, rfl, rfl, rfl, rfl⟩,
      readMessage_stop hs hne h hf⟩
  · obtain ⟨l, e, hb, hfirst⟩ := exists_first_crlf h
    exact .inl ⟨cs, l, e, t, ⟨hne, hs, hb, hfirst, rfl, rfl, rfl, hlazy, rfl, rfl⟩,
      readMessage_chunks hs hb hne hfirst hlazy⟩

theorem readMessage_written (st : St) : (readMessage st).1.written = st.written := by
  rcases readMessage_cases st with ⟨_, _, _, _, _, h⟩ | ⟨_, _, _, _, h⟩ <;> rw [h] <;> rfl

theorem readMessage_nwrites (st : St) : (readMessage st).1.nwrites = st.nwrites := by
  rcases readMessage_cases st with ⟨_, _, _, _, _, h⟩ | ⟨_, _, _, _, h⟩ <;> rw [h] <;> rfl

/-- one step of the handshake: a write (`sendmsg` of the NUL byte, `write_message` of a line), or
    `read_message` followed by the `starts_with(kw)` test, `rej` being what `connect_to_bus` returns when
    the test fails -/
inductive Cmd
  | write (raw : List UInt8)
  | expect (kw : List UInt8) (rej : ConnResult)

/-- runs the steps in order until one fails: a failed write or read ends the run with the i/o error
    (the `?` in `auth.rs`), a line without its keyword with the step's `rej` -/
def exec (wok : Nat → Bool) : List Cmd → St → St × ConnResult
  | [], st => (st, .ok)
  | .write raw :: p, st =>
    match send wok st raw with
    | (st, false) => (st, .fail .ioOther)
    | (st, true) => exec wok p st
  | .expect kw rej :: p, st =>
    match readMessage st with
    | (st, .error e) => (st, .fail e)
    | (st, .ok line) => if startsWith kw line then exec wok p st else (st, rej)

/-- the steps of `do_auth`, `negotiate_unix_fds` (if asked for) and `send_begin`, in the order in which
    `connect_to_bus` calls them -/
def handshake (uid : Nat) (fd : Bool) : List Cmd :=
  (.write msgNul :: .write (authLine (uidHex uid)) :: .expect okBytes .authFailed ::
    if fd then [.write negLine, .expect agreeBytes .fdFailed] else []) ++ [.write beginLine]

theorem exec_write {wok : Nat → Bool} {raw : List UInt8} {p : List Cmd} {a : St}
    (h : wok a.nwrites = true) : exec wok (.write raw :: p) a = exec wok p (a.wrote raw) := by
  simp only [exec, send, h, if_true]
  rfl

theorem exec_expect_line {wok : Nat → Bool} {kw : List UInt8} {rej : ConnResult} {p : List Cmd} {a : St}
    {cs : List (List UInt8)} {s : List Ev} {l : List UInt8} (hs : a.script = cs.map Ev.chunk ++ s)
    (hb : cs.flatten = l ++ crlf) (hne : ∀ c ∈ cs, c ≠ []) (hl : hasLineEnding l = false)
    (hv : Utf8.valid l = true) (hk : startsWith kw l = true) :
    exec wok (.expect kw rej :: p) a = exec wok p (a.read cs l [] s) := by
  simp only [exec, readMessage_line hs hb hne hl, hv, hk, if_true]

/-- `Exec wok p a b r`: running `p` from the state `a` ends in the state `b` with the result `r`; one
    constructor for each way a step can go, the reads described by `LineRead` / `StopRead` -/
inductive Exec (wok : Nat → Bool) : List Cmd → St → St → ConnResult → Prop
  | done {a} : Exec wok [] a a .ok
  | writeFails {raw p a} : wok a.nwrites = false →
      Exec wok (.write raw :: p) a { a with nwrites := a.nwrites + 1 } (.fail .ioOther)
  | write {raw p a b r} : wok a.nwrites = true → Exec wok p (a.wrote raw) b r →
      Exec wok (.write raw :: p) a b r
  | stops {kw rej p a cs stp f} : StopRead a (a.stopped cs stp) cs f →
      Exec wok (.expect kw rej :: p) a (a.stopped cs stp) (.fail f)
  | invalid {kw rej p a cs l extra rest} : LineRead a (a.read cs l extra rest) cs l extra →
      Utf8.valid l = false → Exec wok (.expect kw rej :: p) a (a.read cs l extra rest) (.fail .invalidData)
  | rejects {kw rej p a cs l extra rest} : LineRead a (a.read cs l extra rest) cs l extra →
      Utf8.valid l = true → startsWith kw l = false →
      Exec wok (.expect kw rej :: p) a (a.read cs l extra rest) rej
  | accepts {kw rej p a cs l extra rest b r} : LineRead a (a.read cs l extra rest) cs l extra →
      Utf8.valid l = true → startsWith kw l = true → Exec wok p (a.read cs l extra rest) b r →
      Exec wok (.expect kw rej :: p) a b r

theorem exec_Exec (wok : Nat → Bool) (p : List Cmd) (a : St) :
    Exec wok p a (exec wok p a).1 (exec wok p a).2 := by
  induction p generalizing a with
  | nil => exact .done
  | cons c p ih =>
    cases c with
    | write raw =>
      simp only [exec, send]
      cases h : wok a.nwrites
      · exact .writeFails h
      · exact .write h (ih _)
    | expect kw rej =>
      simp only [exec]
      rcases readMessage_cases a with ⟨cs, l, extra, rest, hl, h⟩ | ⟨cs, stp, f, hs, h⟩
      · rw [h]
        cases hv : Utf8.valid l
        · exact .invalid hl hv
        · rw [if_pos rfl]
          dsimp only
          cases hk : startsWith kw l
          · exact .rejects hl hv hk
          · exact .accepts hl hv hk (ih _)
      · rw [h]
        exact .stops hs

/-- `k = 1` for a read that finds the script exhausted: it counts as a read and takes no event -/
theorem StopRead.taken {a b : St} {cs : List (List UInt8)} {f : Fail} (h : StopRead a b cs f) :
    ∃ taken k, a.script = taken ++ b.script ∧ b.reads = a.reads + taken.length + k ∧ k ≤ 1 := by
  obtain ⟨stp, _, h1, h2⟩ := h.stop
  cases stp with
  | nil => exact ⟨cs.map Ev.chunk, 1, by rw [h1, h2]; rfl, by rw [h.reads, List.length_map], Nat.le_refl 1⟩
  | cons e s =>
    exact ⟨cs.map Ev.chunk ++ [e], 0, by rw [h1, h2, List.append_assoc]; rfl,
      by rw [h.reads, List.length_append, List.length_map]; rfl, Nat.zero_le 1⟩

theorem StopRead.ne_panic {a b : St} {cs : List (List UInt8)} {f : Fail} (h : StopRead a b cs f) :
    f ≠ .panic := by
  obtain ⟨stp, hst, _⟩ := h.stop
  cases hst <;> nofun

theorem Exec.taken {wok : Nat → Bool} {p : List Cmd} {a b : St} {r : ConnResult}
    (h : Exec wok p a b r) :
    ∃ taken k, a.script = taken ++ b.script ∧ b.reads = a.reads + taken.length + k ∧ k ≤ 1 ∧
      (r = .ok → k = 0) := by
  induction h with
  | done | writeFails => exact ⟨[], 0, rfl, rfl, Nat.zero_le 1, fun _ => rfl⟩
  | write _ _ ih => exact ih
  | stops hs =>
    obtain ⟨t, k, h1, h2, h3⟩ := hs.taken
    exact ⟨t, k, h1, h2, h3, nofun⟩
  | invalid hl | rejects hl =>
    exact ⟨_, 0, hl.script, by rw [List.length_map]; rfl, Nat.zero_le 1, fun _ => rfl⟩
  | accepts hl _ _ _ ih =>
    obtain ⟨t, k, h1, h2, h3, h4⟩ := ih
    refine ⟨_ ++ t, k, by rw [hl.script, h1, List.append_assoc], ?_, h3, h4⟩
    rw [h2, List.length_append, List.length_map, ← Nat.add_assoc]
    rfl

theorem Exec.result {wok : Nat → Bool} {p : List Cmd} {a b : St} {r : ConnResult}
    (h : Exec wok p a b r) :
    r = .ok ∨ (∃ f, r = .fail f ∧ f ≠ .panic) ∨ ∃ kw, .expect kw r ∈ p := by
  induction h with
  | done => exact .inl rfl
  | writeFails | invalid => exact .inr (.inl ⟨_, rfl, nofun⟩)
  | stops hs => exact .inr (.inl ⟨_, rfl, hs.ne_panic⟩)
  | rejects => exact .inr (.inr ⟨_, .head _⟩)
  | write _ _ ih | accepts _ _ _ _ ih =>
    exact ih.imp_right (.imp_right fun ⟨kw, h⟩ => ⟨kw, .tail _ h⟩)

/-- `Exec wok p a b r` read backwards for an `r` that is success or a rejection, by recursion on `p`:
    on a concrete list of steps it unfolds to the list of what happened -/
def Ran (wok : Nat → Bool) : List Cmd → St → St → ConnResult → Prop
  | [], a, b, r => r = .ok ∧ b = a
  | .write raw :: p, a, b, r => wok a.nwrites = true ∧ Ran wok p (a.wrote raw) b r
  | .expect kw rej :: p, a, b, r => ∃ cs l extra rest, LineRead a (a.read cs l extra rest) cs l extra ∧
      Utf8.valid l = true ∧
      ((startsWith kw l = false ∧ rej = r ∧ b = a.read cs l extra rest) ∨
       (startsWith kw l = true ∧ Ran wok p (a.read cs l extra rest) b r))

theorem Exec.ran {wok : Nat → Bool} {p : List Cmd} {a b : St} {r : ConnResult}
    (h : Exec wok p a b r) (hr : ∀ f, r ≠ .fail f) : Ran wok p a b r := by
  induction h with
  | done => exact ⟨rfl, rfl⟩
  | writeFails | stops | invalid => exact absurd rfl (hr _)
  | write hw _ ih => exact ⟨hw, ih hr⟩
  | rejects hl hv hk => exact ⟨_, _, _, _, hl, hv, .inl ⟨hk, rfl, rfl⟩⟩
  | accepts hl hv hk _ ih => exact ⟨_, _, _, _, hl, hv, .inr ⟨hk, ih hr⟩⟩

/-- the lines a program writes when it runs to its end -/
def writes : List Cmd → List (List UInt8)
  | [] => []
  | .write raw :: p => raw :: writes p
  | .expect _ _ :: p => writes p

theorem Exec.written_prefix {wok : Nat → Bool} {p : List Cmd} {a b : St} {r : ConnResult}
    (h : Exec wok p a b r) : b.written <+: a.written ++ writes p := by
  induction h with
  | done | writeFails | stops | invalid | rejects => exact List.prefix_append _ _
  | write _ _ ih => rwa [St.wrote, List.append_assoc] at ih
  | accepts _ _ _ _ ih => exact ih

theorem Exec.replies_prefix {wok : Nat → Bool} {p : List Cmd} {a b : St} {r : ConnResult}
    (h : Exec wok p a b r) : a.replies <+: b.replies := by
  induction h with
  | done | writeFails | stops => exact List.prefix_refl _
  | invalid | rejects => exact List.prefix_append _ _
  | write _ _ ih => exact ih
  | accepts _ _ _ _ ih => exact (List.prefix_append _ _).trans ih

/-- a line among the writes that `p₁` does not write (`hraw`) shows that `p₁` ran to its end: a step
    that ends the run writes nothing -/
theorem Exec.reached {wok : Nat → Bool} {p₁ p₂ : List Cmd} {raw : List UInt8} {a b : St}
    {r : ConnResult} (h : Exec wok (p₁ ++ p₂) a b r) (hraw : raw ∉ a.written ++ writes p₁)
    (hb : raw ∈ b.written) : ∃ m, Exec wok p₁ a m .ok ∧ raw ∉ m.written ∧ Exec wok p₂ m b r := by
  induction p₁ generalizing a with
  | nil => exact ⟨a, .done, fun hm => hraw (List.mem_append_left _ hm), h⟩
  | cons c p₁ ih =>
    cases h with
    | writeFails | stops | invalid | rejects => exact absurd (List.mem_append_left _ hb) hraw
    | write hw h =>
      obtain ⟨m, h1, hm, h2⟩ := ih h (by rwa [St.wrote, List.append_assoc])
      exact ⟨m, .write hw h1, hm, h2⟩
    | accepts hl hv hk h =>
      obtain ⟨m, h1, hm, h2⟩ := ih h hraw
      exact ⟨m, .accepts hl hv hk h1, hm, h2⟩

/-- the client states agree in everything the peer can observe and the remaining scripts carry the same
    stream for `n` more lines -/
structure Sim (n : Nat) (a b : St) : Prop where
  written : a.written = b.written
  nwrites : a.nwrites = b.nwrites
  replies : a.replies = b.replies
  stream : SameStream n a.script b.script

theorem Sim.weaken {n : Nat} {a b : St} (h : Sim n a b) : Sim 0 a b :=
  ⟨h.written, h.nwrites, h.replies, .zero _ _⟩

theorem send_sim (wok : Nat → Bool) {n : Nat} {a b : St} (raw : List UInt8) (h : Sim n a b) :
    ∃ a' b' ok, send wok a raw = (a', ok) ∧ send wok b raw = (b', ok) ∧ Sim n a' b' := by
  obtain ⟨hw, hn, hr, hs⟩ := h
  unfold send
  rw [← hn]
  split
  · exact ⟨_, _, _, rfl, rfl, congrArg (· ++ [raw]) hw, rfl, hr, hs⟩
  · exact ⟨_, _, _, rfl, rfl, hw, rfl, hr, hs⟩

theorem readMessage_sim {n : Nat} {a b : St} (h : Sim (n + 1) a b) :
    ∃ a' b' res, readMessage a = (a', res) ∧ readMessage b = (b', res) ∧ Sim 0 a' b' ∧
      ∀ l, res = .ok l → Sim n a' b' := by
  obtain ⟨hw, hn, hr, hstream⟩ := h
  generalize hsa : a.script = sa at hstream
  generalize hsb : b.script = sb at hstream
  cases hstream with
  | line _ l ca cb s t hl hca hcb hst =>
    obtain ⟨csa, rfl, hfa, hna⟩ := hca
    obtain ⟨csb, rfl, hfb, hnb⟩ := hcb
    have hr' := congrArg (· ++ [Reply.mk l []]) hr
    exact ⟨_, _, _, readMessage_line hsa hfa hna hl, readMessage_line hsb hfb hnb hl,
      ⟨hw, hn, hr', .zero _ _⟩, fun _ _ => ⟨hw, hn, hr', hst⟩⟩
  | stop _ p ca cb s t f hp hca hcb hsa' hsb' =>
    obtain ⟨csa, rfl, hfa, hna⟩ := hca
    obtain ⟨csb, rfl, hfb, hnb⟩ := hcb
    exact ⟨_, _, _, readMessage_stop hsa hna (hfa ▸ hp) hsa', readMessage_stop hsb hnb (hfb ▸ hp) hsb',
      ⟨hw, hn, hr, .zero _ _⟩, nofun⟩

/-- the number of lines a program reads -/
def expects : List Cmd → Nat
  | [] => 0
  | .write _ :: p => expects p
  | .expect _ _ :: p => expects p + 1

theorem exec_sim (wok : Nat → Bool) {p : List Cmd} {n : Nat} {a b : St} (h : Sim n a b)
    (hn : expects p ≤ n) :
    (exec wok p a).2 = (exec wok p b).2 ∧ Sim 0 (exec wok p a).1 (exec wok p b).1 := by
  induction p generalizing n a b with
  | nil => exact ⟨rfl, h.weaken⟩
  | cons c p ih =>
    cases c with
    | write raw =>
      obtain ⟨a', b', ok, ha, hb, s⟩ := send_sim wok raw h
      simp only [exec, ha, hb]
      cases ok
      · exact ⟨rfl, s.weaken⟩
      · exact ih s hn
    | expect kw rej =>
      cases n with
      | zero => cases hn
      | succ n =>
        obtain ⟨a', b', res, ha, hb, w, s⟩ := readMessage_sim h
        simp only [exec, ha, hb]
        cases res with
        | error e => exact ⟨rfl, w⟩
        | ok l =>
          dsimp only
          split
          · exact ih (s l rfl) (Nat.le_of_succ_le_succ hn)
          · exact ⟨rfl, w⟩

theorem connectFrom_eq_exec (wok : Nat → Bool) (uid : Nat) (fd : Bool) (st : St) :
    connectFrom wok uid fd st = exec wok (handshake uid fd) st := by
  simp only [connectFrom, doAuth, getUidAsHex_eq, handshake, List.cons_append, exec]
  rcases send wok st msgNul with ⟨s1, _ | _⟩
  · rfl
  dsimp only
  rcases send wok s1 (authLine (uidHex uid)) with ⟨s2, _ | _⟩
  · rfl
  dsimp only
  rcases readMessage s2 with ⟨s3, e | l1⟩
  · rfl
  dsimp only
  cases startsWith okBytes l1
  · rfl
  cases fd
  · simp only [sendBegin, Bool.false_eq_true, if_false, if_true, List.nil_append, exec]
    rcases send wok s3 beginLine with ⟨s4, _ | _⟩ <;> rfl
  · simp only [negotiateUnixFds, sendBegin, if_true, List.cons_append, List.nil_append, exec]
    rcases send wok s3 negLine with ⟨s4, _ | _⟩
    · rfl
    dsimp only
    rcases readMessage s4 with ⟨s5, e | l2⟩
    · rfl
    dsimp only
    cases startsWith agreeBytes l2
    · rfl
    simp only [if_true]
    rcases send wok s5 beginLine with ⟨s6, _ | _⟩ <;> rfl

theorem connect_Exec (wok : Nat → Bool) (uid : Nat) (fd : Bool) (script : List Ev) :
    Exec wok (handshake uid fd) { script := script } (connect wok uid fd script).1
      (connect wok uid fd script).2 := by
  rw [connect, connectFrom_eq_exec]
  exact exec_Exec _ _ _

theorem handshake_rej {uid : Nat} {fd : Bool} {kw : List UInt8} {rej : ConnResult}
    (h : .expect kw rej ∈ handshake uid fd) (f : Fail) : rej ≠ .fail f := by
  cases fd <;> simp [handshake] at h
  · exact h.2 ▸ nofun
  · rcases h with ⟨_, rfl⟩ | ⟨_, rfl⟩ <;> nofun

theorem writes_handshake (uid : Nat) (fd : Bool) :
    writes (handshake uid fd) = expectedMsgs uid fd := by
  cases fd <;> rfl

theorem expects_handshake (uid : Nat) (fd : Bool) : expects (handshake uid fd) ≤ 2 := by
  cases fd
  · exact Nat.le_succ 1
  · exact Nat.le_refl 2

/-- 'A'; the other three lines start with 0, 'N', 'B' -/
theorem authLine_head (hex : List Char) : (authLine hex).head? = some 65 := rfl

theorem neg_ne_auth (hex : List Char) : negLine ≠ authLine hex :=
  fun h => absurd (congrArg List.head? h) (by rw [authLine_head]; decide)

theorem begin_ne_auth (hex : List Char) : beginLine ≠ authLine hex :=
  fun h => absurd (congrArg List.head? h) (by rw [authLine_head]; decide)

theorem begin_ne_neg : beginLine ≠ negLine := by decide
theorem begin_ne_nul : beginLine ≠ msgNul := by decide
theorem neg_ne_nul : negLine ≠ msgNul := by decide

end Rustbus.Auth
