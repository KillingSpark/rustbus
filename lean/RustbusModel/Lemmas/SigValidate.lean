import RustbusModel.Lemmas.SigPrint
/-!
`validateNext` / `validateStruct` / `validateLoop` against the printed form, in the same two directions
as the parser. The validator's counters `(bd, ad)` are the arguments of `Ty.depthOk`, so the arithmetic of
`Spec.Sig` comes in only at the end, through `denotes_iff` (`validateSignature_iff`), and in `vs_complete`,
which is `validateStruct_complete` in the specification's depths. The struct loop, and the splitter of
`SigIter`, walk a fixed string `s` by a position `p`: `s.drop p` is the part not yet consumed.
-/
namespace Rustbus.Sig
open Rustbus.Spec.Sig Ty

theorem drop_add_of_append {s : List Char} {p : Nat} {x rest : List Char}
    (h : s.drop p = x ++ rest) : s.drop (p + x.length) = rest := by
  rw [← List.drop_drop, h, List.drop_left]

theorem drop_succ_of_cons {s : List Char} {p : Nat} {c : Char} {tl : List Char}
    (h : s.drop p = c :: tl) : s.drop (p + 1) = tl :=
  drop_add_of_append (x := [c]) h

/-- the look-behind character after consuming a complete type is not `a` -/
theorem head?_drop_last {s : List Char} {p : Nat} {t : Ty} {rest : List Char}
    (h : s.drop p = toStr t ++ rest) : (s.drop (p + (toStr t).length - 1)).head? ≠ some 'a' := by
  obtain ⟨l, c, hl, hc⟩ := toStr_last t
  rw [hl, List.append_assoc] at h
  rw [hl, List.length_append, List.length_singleton, ← Nat.add_assoc, Nat.add_sub_cancel,
    drop_add_of_append h]
  exact fun h => hc (Option.some.inj h)

theorem validateNext_nil (f : Nat) (prev : Option Char) (ad bd : Nat) :
    validateNext f prev [] ad bd = none := by
  cases f <;> simp [validateNext]

theorem validateNext_depth {f : Nat} {prev : Option Char} {s : List Char} {ad bd n : Nat}
    (h : validateNext f prev s ad bd = some n) : bd ≤ 32 ∧ ad ≤ 32 := by
  cases f with
  | zero => simp [validateNext] at h
  | succ f =>
    rw [validateNext.eq_def] at h
    by_cases h1 : bd > 32
    · simp [h1] at h
    by_cases h2 : ad > 32
    · simp [h2] at h
    omega

theorem validateNext_other {f : Nat} {prev : Option Char} {c : Char} {rest : List Char} {ad bd : Nat}
    (hp : ((Base.ofChar c).isSome || decide (c = 'v')) = false) (h1 : c ≠ 'a') (h2 : c ≠ '{')
    (h3 : c ≠ '(') : validateNext (f + 1) prev (c :: rest) ad bd = none := by
  rw [validateNext.eq_def]
  simp [hp, h1, h2, h3]

section
variable {ad bd : Nat} (h : bd ≤ 32 ∧ ad ≤ 32) {f : Nat} {prev : Option Char} {rest : List Char}
include h

theorem validateNext_plain {c : Char} (hc : ((Base.ofChar c).isSome || decide (c = 'v')) = true) :
    validateNext (f + 1) prev (c :: rest) ad bd = some 1 := by
  rw [validateNext.eq_def]
  simp only [Nat.not_lt.2 h.1, Nat.not_lt.2 h.2, if_false, hc, if_true]

theorem validateNext_arr : validateNext (f + 1) prev ('a' :: rest) ad bd =
      (validateNext f (some 'a') rest (ad + 1) bd).map (· + 1) := by
  rw [validateNext.eq_def]
  simp [Nat.not_lt.2 h.1, Nat.not_lt.2 h.2, ofChar_nonbase]
  cases validateNext f (some 'a') rest (ad + 1) bd <;> rfl

theorem validateNext_open :
    validateNext (f + 1) prev ('(' :: rest) ad bd = validateStruct f ('(' :: rest) 1 ad bd := by
  rw [validateNext.eq_def]
  simp [Nat.not_lt.2 h.1, Nat.not_lt.2 h.2, ofChar_nonbase]

theorem validateNext_brace {n : Nat} : validateNext (f + 1) prev ('{' :: rest) ad bd = some n ↔
    prev = some 'a' ∧ ∃ (k : Base) (tl : List Char) (m : Nat) (r : List Char), rest = k.char :: tl ∧
      validateNext f (some k.char) tl ad bd = some m ∧ tl.drop m = '}' :: r ∧ n = m + 3 := by
  rw [validateNext.eq_def]
  simp only [Nat.not_lt.2 h.1, Nat.not_lt.2 h.2, if_false, ofChar_nonbase]
  constructor
  · intro hn
    match rest with
    | [] => simp at hn
    | c :: tl =>
      rcases hv : validateNext f (some c) tl ad bd with _ | m <;> simp [hv] at hn
      obtain ⟨⟨rfl, -⟩, hk, hn⟩ := hn
      obtain ⟨k, rfl⟩ := ofChar_isSome hk
      simp only [Nat.add_comm 1 m, List.drop_succ_cons] at hn
      split at hn <;> cases hn
      next r hr => exact ⟨rfl, k, tl, m, r, rfl, hv, hr, by omega⟩
  · rintro ⟨rfl, k, tl, m, r, rfl, hv, hr, rfl⟩
    have : tl ≠ [] := by rintro rfl; simp at hr
    simp [ofChar_char, hv, Nat.add_comm 1 m, hr, this]
end

theorem validateStruct_close {f : Nat} {s : List Char} {counter : Nat} {tl : List Char} {ad bd : Nat}
    (h : s.drop counter = ')' :: tl) :
    validateStruct (f + 1) s counter ad bd = if counter = 1 then none else some (counter + 1) := by
  rw [validateStruct]; simp [h]

theorem validateStruct_step {f : Nat} {s : List Char} {counter : Nat} {c : Char} {tl : List Char} {ad bd : Nat}
    (h : s.drop counter = c :: tl) (hc : c ≠ ')') :
    validateStruct (f + 1) s counter ad bd =
      (validateNext f ((s.drop (counter - 1)).head?) (c :: tl) ad (bd + 1)).bind fun n =>
        validateStruct f s (counter + n) ad bd := by
  rw [validateStruct]
  simp only [h, if_neg hc]
  cases validateNext f ((s.drop (counter - 1)).head?) (c :: tl) ad (bd + 1) <;> rfl

mutual
theorem validateNext_complete : (t : Ty) → t.wf = true → ∀ (fuel : Nat) (prev : Option Char)
    (rest : List Char) (ad bd : Nat), (toStr t).length < fuel → t.depthOk bd ad = true →
    validateNext fuel prev (toStr t ++ rest) ad bd = some (toStr t).length
  | .base b, _, fuel, prev, rest, ad, bd, hf, hd => by
    obtain ⟨f, rfl⟩ := exists_succ hf
    exact validateNext_plain (depthOk_le hd) (by simp [ofChar_char])
  | .variant, _, fuel, prev, rest, ad, bd, hf, hd => by
    obtain ⟨f, rfl⟩ := exists_succ hf
    exact validateNext_plain (depthOk_le hd) (by decide)
  | .array e, hw, fuel, prev, rest, ad, bd, hf, hd => by
    obtain ⟨f, rfl⟩ := exists_succ hf
    have hg := depthOk_le hd
    simp only [depthOk, Bool.and_eq_true] at hd
    simp only [toStr, List.cons_append, List.length_cons] at hf ⊢
    rw [validateNext_arr hg, validateNext_complete e hw f _ rest _ _ (by omega) hd.2]
    rfl
  | .dict k v, hw, fuel, prev, rest, ad, bd, hf, hd => by
    obtain ⟨f, rfl⟩ := exists_succ hf
    have hg := depthOk_le hd
    simp only [depthOk, Bool.and_eq_true] at hd
    simp only [toStr, List.cons_append, List.append_assoc, List.nil_append, List.length_cons,
      List.length_append, List.length_nil] at hf ⊢
    obtain ⟨f, rfl⟩ := exists_succ (show 0 < f by omega)
    rw [validateNext_arr hg, (validateNext_brace (depthOk_le hd.2)).2 ⟨rfl, k, _, _, rest, rfl,
      validateNext_complete v hw f _ ('}' :: rest) _ _ (by omega) hd.2, List.drop_left, rfl⟩]
    rfl
  | .struct fs, hw, fuel, prev, rest, ad, bd, hf, hd => by
    obtain ⟨f, rfl⟩ := exists_succ hf
    have hg := depthOk_le hd
    simp only [depthOk, Bool.and_eq_true] at hd
    simp only [toStr, List.cons_append, List.append_assoc, List.nil_append, List.length_cons,
      List.length_append, List.length_nil] at hf ⊢
    simp only [wf, Bool.and_eq_true] at hw
    rw [validateNext_open hg, validateStruct_complete fs hw.2 f _ 1 rest ad bd (by omega) (by omega) rfl hd.2
      (fun _ => by simpa using hw.1)]
    congr 1; omega
theorem validateStruct_complete : (ts : List Ty) → wfList ts = true → ∀ (fuel : Nat) (s : List Char)
    (counter : Nat) (rest : List Char) (ad bd : Nat), (listToStr ts).length + 1 < fuel → 0 < counter →
    s.drop counter = listToStr ts ++ ')' :: rest → depthOkList ts (bd + 1) ad = true →
    (counter = 1 → ts ≠ []) →
    validateStruct fuel s counter ad bd = some (counter + (listToStr ts).length + 1)
  | [], _, fuel, s, counter, rest, ad, bd, hf, hc, hs, hd, h1 => by
    obtain ⟨f, rfl⟩ := exists_succ hf
    rw [validateStruct_close hs, if_neg (fun h => h1 h rfl)]
    rfl
  | t :: ts, hw, fuel, s, counter, rest, ad, bd, hf, hc, hs, hd, _ => by
    obtain ⟨f, rfl⟩ := exists_succ hf
    simp only [wfList, depthOkList, Bool.and_eq_true] at hw hd
    simp only [listToStr, List.append_assoc, List.length_append] at hf hs ⊢
    have hpos := toStr_length_pos t
    obtain ⟨c, tl, hct, hst⟩ := toStr_start t
    have ht := validateNext_complete t hw.1 f ((s.drop (counter - 1)).head?) (listToStr ts ++ ')' :: rest) ad
      (bd + 1) (by omega) hd.1
    have hts := validateStruct_complete ts hw.2 f s (counter + (toStr t).length) rest ad bd (by omega)
      (by omega) (drop_add_of_append hs) hd.2 (by omega)
    rw [hct, List.cons_append] at hs ht
    rw [validateStruct_step hs (isStart_facts hst).2.2, ht, Option.bind_some, ← hct, hts]
    simp only [Nat.add_assoc]
end

theorem vs_complete : (ts : List Ty) → wfList ts = true → ∀ (fuel : Nat) (s : List Char)
    (counter : Nat) (rest : List Char) (ad bd : Nat), (listToStr ts).length + 1 < fuel →
    0 < counter → s.drop counter = listToStr ts ++ ')' :: rest →
    (∃ c tl, s.drop (counter - 1) = c :: tl ∧ c ≠ 'a') →
    bd + 1 + structDepthList ts ≤ 32 → ad + arrayDepthList ts ≤ 32 → (counter = 1 → ts ≠ []) →
    validateStruct fuel s counter ad bd = some (counter + (listToStr ts).length + 1) :=
  fun ts hw fuel s counter rest ad bd hf hc hs _ hb ha h1 =>
    validateStruct_complete ts hw fuel s counter rest ad bd hf hc hs
      (if h : ts = [] then h ▸ rfl else (depthOkList_iff ts hw h (bd + 1) ad).2 ⟨hb, ha⟩) h1

/-- With look-behind `a` the validator also reads a bare dict entry `{kv}`: that is how `a{kv}` is
    recognised, one call down from the `a`. Everywhere else the look-behind is not `a`
    (`head?_drop_last`), so only complete types are read. -/
theorem validateNext_sound (f : Nat) :
    (∀ {prev : Option Char} {s : List Char} {ad bd n : Nat}, validateNext f prev s ad bd = some n →
      (∃ t r, s = toStr t ++ r ∧ n = (toStr t).length ∧ t.wf = true ∧ t.depthOk bd ad = true) ∨
      (prev = some 'a' ∧ ∃ (k : Base) (v : Ty) (r : List Char),
        s = '{' :: k.char :: (toStr v ++ '}' :: r) ∧ n = (toStr v).length + 3 ∧ v.wf = true ∧
        v.depthOk bd ad = true)) ∧
    (∀ {s : List Char} {counter ad bd n : Nat}, validateStruct f s counter ad bd = some n →
      (s.drop (counter - 1)).head? ≠ some 'a' →
      ∃ ts r, s.drop counter = listToStr ts ++ ')' :: r ∧ n = counter + (listToStr ts).length + 1 ∧
        wfList ts = true ∧ depthOkList ts (bd + 1) ad = true ∧ (counter = 1 → ts ≠ [])) := by
  induction f with
  | zero => simp [validateNext, validateStruct]
  | succ f ih =>
    obtain ⟨ihN, ihS⟩ := ih
    refine ⟨?_, ?_⟩
    · intro prev s ad bd n h
      have hg := validateNext_depth h
      match s with
      | [] => rw [validateNext_nil] at h; cases h
      | c :: rest =>
        by_cases hp : ((Base.ofChar c).isSome || decide (c = 'v')) = true
        · rw [validateNext_plain hg hp] at h
          cases h
          simp only [Bool.or_eq_true, decide_eq_true_eq] at hp
          rcases hp with hp | rfl
          · obtain ⟨b, rfl⟩ := ofChar_isSome hp
            exact .inl ⟨.base b, rest, rfl, rfl, rfl, by simpa [depthOk] using hg⟩
          · exact .inl ⟨.variant, rest, rfl, rfl, rfl, by simpa [depthOk] using hg⟩
        by_cases h1 : c = 'a'
        · subst h1
          rw [validateNext_arr hg, Option.map_eq_some_iff] at h
          obtain ⟨m, hv, rfl⟩ := h
          rcases ihN hv with ⟨t, r, rfl, rfl, hw, hd⟩ | ⟨-, k, v, r, rfl, rfl, hw, hd⟩
          · exact .inl ⟨.array t, r, rfl, rfl, hw, by simp [depthOk, hd, hg]⟩
          · exact .inl ⟨.dict k v, r, by simp [toStr], by simp [toStr], hw, by simp [depthOk, hd, hg]⟩
        by_cases h2 : c = '{'
        · subst h2
          obtain ⟨hprev, k, tl, m, r, rfl, hv, hr, rfl⟩ := (validateNext_brace hg).1 h
          rcases ihN hv with ⟨t, r', rfl, rfl, hw, hdp⟩ | ⟨hk, -⟩
          · rw [List.drop_left] at hr
            exact .inr ⟨hprev, k, t, r, by rw [hr], rfl, hw, hdp⟩
          · exact absurd (Option.some.inj hk) (base_char_facts k).2.2.1
        by_cases h3 : c = '('
        · subst h3
          rw [validateNext_open hg] at h
          obtain ⟨ts, r, hs, rfl, hw, hd, hne⟩ := ihS h (by simp)
          subst hs
          exact .inl ⟨.struct ts, r, by simp [toStr], by simp [toStr]; omega, by simp [wf, hw, hne],
            by simp [depthOk, hd, hg]⟩
        · rw [validateNext_other (by simpa using hp) h1 h2 h3] at h
          cases h
    · intro s counter ad bd n h hprev
      match hd : s.drop counter with
      | [] => rw [validateStruct] at h; simp [hd] at h
      | c :: tl =>
        by_cases hcl : c = ')'
        · subst hcl
          rw [validateStruct_close hd] at h
          split at h
          · cases h
          next h1 =>
            cases h
            exact ⟨[], tl, rfl, rfl, rfl, rfl, fun h => absurd h h1⟩
        · rw [validateStruct_step hd hcl, Option.bind_eq_some_iff] at h
          obtain ⟨m, hv, h⟩ := h
          rcases ihN hv with ⟨t, r, hs, rfl, hw, hdp⟩ | ⟨hk, -⟩
          · rw [hs] at hd
            obtain ⟨ts, r', hs', rfl, hws, hds, -⟩ := ihS h (head?_drop_last hd)
            rw [drop_add_of_append hd] at hs'
            subst hs'
            exact ⟨t :: ts, r', by simpa [listToStr] using hs, by simp [listToStr]; omega,
              by simp [wfList, hw, hws], by simp [depthOkList, hdp, hds], fun _ => by simp⟩
          · exact absurd hk hprev

theorem validateLoop_succ {f : Nat} {prev : Option Char} {s : List Char} (hs : s ≠ []) :
    validateLoop (f + 1) prev s =
      match validateNext (2 * s.length + 2) prev s 0 0 with
      | some n => validateLoop f ((s.drop (n - 1)).head?) (s.drop n)
      | none => false := by
  cases s with
  | nil => exact absurd rfl hs
  | cons c tl => rfl

theorem validateLoop_complete : (ts : List Ty) → wfList ts = true →
    ts.all (fun t => t.depthOk 0 0) = true → ∀ (fuel : Nat) (prev : Option Char),
    (listToStr ts).length < fuel → validateLoop fuel prev (listToStr ts) = true
  | [], _, _, fuel, prev, hf => by
    obtain ⟨f, rfl⟩ := exists_succ hf
    rfl
  | t :: ts, hw, hd, fuel, prev, hf => by
    obtain ⟨f, rfl⟩ := exists_succ hf
    simp only [wfList, List.all_cons, Bool.and_eq_true] at hw hd
    simp only [listToStr, List.length_append] at hf ⊢
    have hpos := toStr_length_pos t
    rw [validateLoop_succ (by simp [toStr_ne_nil]),
      validateNext_complete t hw.1 _ prev _ 0 0 (by simp only [List.length_append]; omega) hd.1]
    simp only [List.drop_left]
    exact validateLoop_complete ts hw.2 hd.2 f _ (by omega)

theorem validateLoop_sound : ∀ {fuel : Nat} {prev : Option Char} {s : List Char},
    validateLoop fuel prev s = true → prev ≠ some 'a' →
    ∃ ts, s = listToStr ts ∧ wfList ts = true ∧ ts.all (fun t => t.depthOk 0 0) = true
  | 0, _, _, h, _ => by simp [validateLoop] at h
  | f + 1, prev, s, h, hprev => by
    by_cases hs : s = []
    · exact ⟨[], hs, rfl, rfl⟩
    rw [validateLoop_succ hs] at h
    split at h
    next n hv =>
      rcases (validateNext_sound _).1 hv with ⟨t, r, rfl, rfl, hw, hd⟩ | ⟨hk, -⟩
      · rw [List.drop_left] at h
        obtain ⟨ts, rfl, hws, hds⟩ := validateLoop_sound h
          (by simpa using head?_drop_last (s := toStr t ++ r) (p := 0) rfl)
        exact ⟨t :: ts, rfl, by simp [wfList, hw, hws], by simp [hd, hds]⟩
      · exact absurd hk hprev
    · cases h

theorem validateSignature_iff (s : List Char) : validateSignature s = true ↔ Valid s := by
  simp only [validateSignature, Valid, denotes_iff]
  split
  next hl =>
    simp only [Bool.false_eq_true, false_iff, not_exists]
    intro ts h
    omega
  next hl =>
    constructor
    · intro h
      obtain ⟨ts, h⟩ := validateLoop_sound h (by simp)
      exact ⟨ts, by omega, h⟩
    · rintro ⟨ts, -, rfl, hw, hd⟩
      exact validateLoop_complete ts hw hd _ _ (by omega)

end Rustbus.Sig
