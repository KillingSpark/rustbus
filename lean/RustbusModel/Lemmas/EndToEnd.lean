import RustbusModel.Model.Recv
import RustbusModel.Lemmas.LimitsSend
/-!
Glue between the models: what the send side emits for a message (`Header.marshalHeader` ++ body, C05/C10/C18) is a
well-formed frame for the receive loop (`Recv.FrameOk`, C09).
-/
namespace Rustbus.Recv
open Rustbus.Header Rustbus.Spec.Header

theorem marshalled_frameOk (m : Msg) (serial : Nat) (hr : msgInRange m serial) (hs : 0 < serial)
    (hrs : m.replySerial ≠ some 0) (hdr : List UInt8) (hm : marshalHeader m serial = some hdr)
    (fs : List Field) (hf : entriesFields (msgEntries m) = some fs) (hok : fieldsOk m.typ fs = true)
    (fds : List Nat) (hfd : fds.length ≤ cmsgCap) :
    FrameOk ⟨hdr ++ m.body, fds⟩ := by
  have hn := Rustbus.Limits.send_within_recv m serial hr hs hdr hm
  have h16 : 16 ≤ (hdr ++ m.body).length := by
    rw [List.length_append]; exact bytesNeeded_ge16 _ _ hn
  refine ⟨h16, ?_, ?_, hfd⟩
  · show bytesNeeded ((hdr ++ m.body).take 16) = .bytes (hdr ++ m.body).length
    rw [bytesNeeded_take (Nat.le_refl 16), hn, List.length_append]
  · show (decodeMessage (hdr ++ m.body)).isSome = true
    rw [marshal_decode m serial hr hs hrs hdr hm fs hf hok]; rfl

end Rustbus.Recv
