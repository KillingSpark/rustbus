import RustbusModel.Model.DecCost
import RustbusModel.Lemmas.Wire
/-!
The instrumented decoder `decW` (Model/DecCost.lean): its one-step unfoldings and `inv_all`, by one induction on the
budget `d`: `decW` returns what `dec` returns, enters at most `d` container levels, and does at most
`size t + c * m` steps, where `m` = the bytes it is charged for (`span`) and `c = B * (d + 1)` is the price of a
byte, for any `B ≥ 256, size t`.

The accounting: every node of the type costs one decoder call even if no byte is read; that is the summand `size t`.
Whatever else happens is paid for by consumed bytes. An iteration of an element loop costs `1 + size e ≤ B` steps
beyond the bytes of its element, and the element has at least one byte: inside a container a byte costs `B` more
(`charge_loop`), hence the factor `d + 1`. A variant's `len + 2` signature bytes pay for parsing the `len`
characters and for the nodes of the announced type, of which there are at most 255 (`parse_size`): hence `B ≥ 256`
(`charge_sig`).
-/
namespace Rustbus.Wire
open Rustbus.Bytes

section unfold
variable {bo : ByteOrder} {buf : List UInt8} {nfds : Option Nat}

theorem decW_base {d : Nat} {b : Base} {off lim : Nat} :
    decW bo buf nfds d (.base b) off lim = ⟨decBase bo buf nfds b off lim, decBaseWork bo buf b off lim, 0⟩ := by
  rw [decW]

theorem decW_zero {t : Ty} {off lim : Nat} (ht : ∀ b, t ≠ .base b) :
    decW bo buf nfds 0 t off lim = ⟨none, 1, 0⟩ := by
  cases t <;> first | exact absurd rfl (ht _) | simp only [decW]

theorem decW_array {d : Nat} {e : Ty} {off lim : Nat} :
    decW bo buf nfds (d + 1) (.array e) off lim =
    match skipPad buf off lim 4 with
    | none => ⟨none, 1, 1⟩
    | some o =>
      match readNum bo buf o lim 4 with
      | none => ⟨none, 1, 1⟩
      | some len =>
        if len ≤ maxArrayLen then
          match skipPad buf (o + 4) lim e.align with
          | none => ⟨none, 1, 1⟩
          | some o2 =>
            if o2 + len ≤ lim then
              match decListW bo buf nfds d e o2 (o2 + len) len with
              | ⟨none, w, dp⟩ => ⟨none, 1 + w, 1 + dp⟩
              | ⟨some vs, w, dp⟩ => ⟨some (.arr vs, o2 + len), 1 + w, 1 + dp⟩
            else ⟨none, 1, 1⟩
        else ⟨none, 1, 1⟩ := by
  rw [decW]; rfl

theorem decW_dict_one {k : Base} {v : Ty} {off lim : Nat} :
    decW bo buf nfds 1 (.dict k v) off lim = ⟨none, 1, 1⟩ := by
  rw [decW]

theorem decW_dict {d' : Nat} {k : Base} {v : Ty} {off lim : Nat} :
    decW bo buf nfds (d' + 2) (.dict k v) off lim =
      match skipPad buf off lim 4 with
      | none => ⟨none, 1, 2⟩
      | some o =>
        match readNum bo buf o lim 4 with
        | none => ⟨none, 1, 2⟩
        | some len =>
          if len ≤ maxArrayLen then
            match skipPad buf (o + 4) lim 8 with
            | none => ⟨none, 1, 2⟩
            | some o2 =>
              if o2 + len ≤ lim then
                match decEntriesW bo buf nfds d' k v o2 (o2 + len) len with
                | ⟨none, w, dp⟩ => ⟨none, 1 + w, 2 + dp⟩
                | ⟨some es, w, dp⟩ => ⟨some (.arr es, o2 + len), 1 + w, 2 + dp⟩
              else ⟨none, 1, 2⟩
          else ⟨none, 1, 2⟩ := by
  rw [decW]; rfl

theorem decW_struct {d : Nat} {fs : List Ty} {off lim : Nat} :
    decW bo buf nfds (d + 1) (.struct fs) off lim =
    if fs.isEmpty then ⟨none, 1, 1⟩
    else
      match skipPad buf off lim 8 with
      | none => ⟨none, 1, 1⟩
      | some o =>
        match decFieldsW bo buf nfds d fs o lim with
        | ⟨none, w, dp⟩ => ⟨none, 1 + w, 1 + dp⟩
        | ⟨some (vs, o'), w, dp⟩ => ⟨some (.struct vs, o'), 1 + w, 1 + dp⟩ := by
  rw [decW]; rfl

theorem decW_variant {d : Nat} {off lim : Nat} :
    decW bo buf nfds (d + 1) .variant off lim =
    match readNum bo buf off lim 1 with
    | none => ⟨none, 1, 1⟩
    | some len =>
      if off + len + 2 ≤ lim then
        if slice buf (off + 1 + len) 1 = [0] then
          match Sig.parseDescription (latin1 (slice buf (off + 1) len)) with
          | some [t] =>
            match decW bo buf nfds d t (off + len + 2) lim with
            | ⟨none, w, dp⟩ => ⟨none, 1 + len + w, 1 + dp⟩
            | ⟨some (v, o'), w, dp⟩ => ⟨some (.variant t v, o'), 1 + len + w, 1 + dp⟩
          | _ => ⟨none, 1 + len, 1⟩
        else ⟨none, 1, 1⟩
      else ⟨none, 1, 1⟩ := by
  rw [decW]; rfl

theorem decListW_zero {d : Nat} {e : Ty} {off lim : Nat} :
    decListW bo buf nfds d e off lim 0 = ⟨if off = lim then some [] else none, 1, 0⟩ := by
  rw [decListW]

theorem decListW_succ {d : Nat} {e : Ty} {off lim fuel : Nat} :
    decListW bo buf nfds d e off lim (fuel + 1) =
    if off = lim then ⟨some [], 1, 0⟩
    else
      match decW bo buf nfds d e off lim with
      | ⟨none, w, dp⟩ => ⟨none, 1 + w, dp⟩
      | ⟨some (v, o'), w, dp⟩ =>
        match decListW bo buf nfds d e o' lim fuel with
        | ⟨none, w', dp'⟩ => ⟨none, 1 + w + w', max dp dp'⟩
        | ⟨some vs, w', dp'⟩ => ⟨some (v :: vs), 1 + w + w', max dp dp'⟩ := by
  rw [decListW]; rfl

theorem decEntriesW_zero {d : Nat} {k : Base} {vt : Ty} {off lim : Nat} :
    decEntriesW bo buf nfds d k vt off lim 0 = ⟨if off = lim then some [] else none, 1, 0⟩ := by
  rw [decEntriesW]

theorem decEntriesW_succ {d : Nat} {k : Base} {vt : Ty} {off lim fuel : Nat} :
    decEntriesW bo buf nfds d k vt off lim (fuel + 1) =
    if off = lim then ⟨some [], 1, 0⟩
    else
      match skipPad buf off lim 8 with
      | none => ⟨none, 1, 0⟩
      | some o =>
        match decBase bo buf nfds k o lim with
        | none => ⟨none, 1 + decBaseWork bo buf k o lim, 0⟩
        | some (kv, o1) =>
          match decW bo buf nfds d vt o1 lim with
          | ⟨none, w, dp⟩ => ⟨none, 1 + decBaseWork bo buf k o lim + w, dp⟩
          | ⟨some (vv, o2), w, dp⟩ =>
            match decEntriesW bo buf nfds d k vt o2 lim fuel with
            | ⟨none, w', dp'⟩ => ⟨none, 1 + decBaseWork bo buf k o lim + w + w', max dp dp'⟩
            | ⟨some es, w', dp'⟩ =>
              ⟨some (.struct [kv, vv] :: es), 1 + decBaseWork bo buf k o lim + w + w', max dp dp'⟩ := by
  rw [decEntriesW]; rfl

theorem decFieldsW_nil {d : Nat} {off lim : Nat} :
    decFieldsW bo buf nfds d [] off lim = ⟨some ([], off), 0, 0⟩ := by
  rw [decFieldsW]

theorem decFieldsW_cons {d : Nat} {t : Ty} {ts : List Ty} {off lim : Nat} :
    decFieldsW bo buf nfds d (t :: ts) off lim =
    match decW bo buf nfds d t off lim with
    | ⟨none, w, dp⟩ => ⟨none, w, dp⟩
    | ⟨some (v, o'), w, dp⟩ =>
      match decFieldsW bo buf nfds d ts o' lim with
      | ⟨none, w', dp'⟩ => ⟨none, w + w', max dp dp'⟩
      | ⟨some (vs, o''), w', dp'⟩ => ⟨some (v :: vs, o''), w + w', max dp dp'⟩ := by
  rw [decFieldsW]; rfl
end unfold

mutual
theorem size_le_toStr : (t : Ty) → t.size ≤ t.toStr.length
  | .base _ => by simp [Ty.size, Ty.toStr]
  | .array e => by have := size_le_toStr e; simp [Ty.size, Ty.toStr]; omega
  | .dict _ v => by have := size_le_toStr v; simp [Ty.size, Ty.toStr]; omega
  | .struct fs => by have := sizeList_le_toStr fs; simp [Ty.size, Ty.toStr]; omega
  | .variant => by simp [Ty.size, Ty.toStr]
theorem sizeList_le_toStr : (ts : List Ty) → Ty.sizeList ts ≤ (Ty.listToStr ts).length
  | [] => by simp [Ty.sizeList, Ty.listToStr]
  | t :: ts => by
    have := size_le_toStr t; have := sizeList_le_toStr ts
    simp [Ty.sizeList, Ty.listToStr]; omega
end

theorem size_pos (t : Ty) : 1 ≤ t.size := by cases t <;> simp [Ty.size] <;> omega

/-- a variant's signature has at most 255 characters (`variantTypeOk`), and every node of a type prints at least one -/
theorem parse_size (sg : List UInt8) (t : Ty) (h : Sig.parseDescription (latin1 sg) = some [t]) :
    t.size ≤ 255 := by
  have h2 := (parse_sound sg t h).2
  simp only [variantTypeOk, Bool.and_eq_true, decide_eq_true_eq, sigBytes_length] at h2
  exact Nat.le_trans (size_le_toStr t) h2.2

/-- bytes a decode is charged for: what it consumed if it succeeded, the whole window if it failed -/
def span {α : Type} (r : Option (α × Nat)) (off lim : Nat) : Nat :=
  match r with
  | some (_, o') => o' - off
  | none => lim - off

theorem charge_add {c w w' a a' p q r : Nat} (h : w ≤ a + c * (q - p)) (h' : w' ≤ a' + c * (r - q))
    (hpq : p ≤ q) (hqr : q ≤ r) : w + w' ≤ a + a' + c * (r - p) := by
  rw [← Nat.sub_add_sub_cancel hqr hpq, Nat.mul_add]
  omega

theorem charge_wrap {c c' w a m n : Nat} (k : Nat) (h : w ≤ a + c * m) (hc : c ≤ c') (hn : m ≤ n) :
    k + w ≤ k + a + c' * n := by
  have := Nat.mul_le_mul hc hn
  omega

theorem charge_head {c c' w a m n : Nat} (h : w ≤ a + c * m) (hc : c ≤ c') (h1 : 1 ≤ c') (hn : m + 1 ≤ n) :
    1 + w ≤ a + c' * n := by
  have := Nat.mul_le_mul hc (Nat.le_refl m)
  have := Nat.mul_le_mul_left c' hn
  rw [Nat.mul_succ] at this
  omega

/-- one iteration of an element loop: the element in `[p, q)`, of `a` nodes, then the rest of the loop in `[q, r)` -/
theorem charge_loop {c B w w' a p q r : Nat} (h : w ≤ a + c * (q - p)) (h' : w' ≤ 1 + a + (c + B) * (r - q))
    (hpq : p < q) (hqr : q ≤ r) (hB : 1 + a ≤ B) : 1 + w + w' ≤ 1 + a + (c + B) * (r - p) := by
  have := Nat.mul_le_mul_left B (Nat.sub_pos_of_lt hpq)
  rw [← Nat.sub_add_sub_cancel hqr (Nat.le_of_lt hpq), Nat.mul_add, Nat.add_mul c B (q - p)]
  omega

/-- a variant at `p`: `len + 2` signature bytes, then the value, of `a` nodes, in `[p + len + 2, r)` -/
theorem charge_sig {c B w a len p r : Nat} (h : w ≤ a + c * (r - (p + len + 2))) (hpr : p + len + 2 ≤ r)
    (ha : a ≤ B) (hB : 1 ≤ B) : 1 + len + w ≤ 1 + (c + B) * (r - p) := by
  have := Nat.le_mul_of_pos_left len hB
  have e : r - p = r - (p + len + 2) + (len + 2) := by omega
  rw [e, Nat.mul_add, Nat.add_mul c B (r - (p + len + 2)), Nat.add_mul c B (len + 2), Nat.mul_add B len 2]
  omega

theorem decBaseWork_pos (bo : ByteOrder) (buf : List UInt8) (b : Base) (off lim : Nat) :
    1 ≤ decBaseWork bo buf b off lim := by
  unfold decBaseWork
  repeat' split
  all_goals omega

/-- the tail shared by the string-likes: the content bytes are counted only once they are known to lie inside the
    window -/
theorem strLike_work {α : Type} {c : Bool} {x : α} {o len k off lim : Nat} (ho : off ≤ o) :
    (if o + len + k ≤ lim then 1 + len else 1) ≤
      1 + span (if o + len + k ≤ lim then if c then some (x, o + len + k) else none else none) off lim := by
  split
  · split <;> simp only [span] <;> omega
  · exact Nat.le_add_right _ _

/-- `decBase` after padding skipped by the caller (`off' ≤ off`) -/
theorem decBaseWork_le_span (bo : ByteOrder) (buf : List UInt8) (nfds : Option Nat) (b : Base) {off' off : Nat}
    (lim : Nat) (h : off' ≤ off) :
    decBaseWork bo buf b off lim ≤ 1 + span (decBase bo buf nfds b off lim) off' lim := by
  unfold decBaseWork
  cases b
  case signature =>
    rw [decBase_sig_eq]
    cases readNum bo buf off lim 1 with
    | none => exact Nat.le_add_right _ _
    | some len => exact strLike_work h
  case string | objpath =>
    rw [decBase_strLike_eq rfl]
    dsimp only [Base.fixedSize, Base.align]
    cases h1 : skipPad buf off lim 4 with
    | none => exact Nat.le_add_right _ _
    | some o =>
      dsimp only
      cases readNum bo buf o lim 4 with
      | none => exact Nat.le_add_right _ _
      | some len => exact strLike_work (Nat.le_trans h (skipPad_le h1))
  all_goals exact Nat.le_add_right _ _

theorem decBaseWork_le (bo : ByteOrder) (buf : List UInt8) (nfds : Option Nat) (b : Base) {off' off : Nat}
    (lim : Nat) (h : off' ≤ off) {a c : Nat} (ha : 1 ≤ a) (hc : 1 ≤ c) :
    decBaseWork bo buf b off lim ≤ a + c * span (decBase bo buf nfds b off lim) off' lim :=
  Nat.le_trans (decBaseWork_le_span bo buf nfds b lim h) (Nat.add_le_add ha (Nat.le_mul_of_pos_left _ hc))

/-- the invariant: `r` is an instrumented run at budget `d` of a decode of `n` type nodes that is charged for `m`
    bytes at `c` steps each and has the plain result `r0`; only the work bound needs `n ≤ B` -/
structure Ok (B c d n m : Nat) {α : Type} (r : W α) (r0 : Option α) : Prop where
  res : r.res = r0
  depth : r.depth ≤ d
  work : n ≤ B → r.work ≤ n + c * m

def Inv (bo : ByteOrder) (buf : List UInt8) (nfds : Option Nat) (B c d : Nat) : Prop :=
  ∀ (t : Ty) (off lim : Nat), Ok B c d t.size (span (dec bo buf nfds d t off lim) off lim)
    (decW bo buf nfds d t off lim) (dec bo buf nfds d t off lim)

variable {bo : ByteOrder} {buf : List UInt8} {nfds : Option Nat} {B c d : Nat}

/-- the form in which a sub-run's `Ok` is used: the run written out, so that the caller's `match` on it reduces -/
theorem Ok.elim {α : Type} {n m : Nat} {r : W α} {r0 : Option α} (h : Ok B c d n m r r0) :
    ∃ w dp, r = ⟨r0, w, dp⟩ ∧ dp ≤ d ∧ (n ≤ B → w ≤ n + c * m) := by
  obtain ⟨_, w, dp⟩ := r
  exact ⟨w, dp, congrArg (W.mk · w dp) h.res, h.depth, h.work⟩

theorem ok_one {α : Type} {n m l : Nat} {r : Option α} (hn : 1 ≤ n) (hl : l ≤ d) :
    Ok B c d n m (⟨r, 1, l⟩ : W α) r :=
  ⟨rfl, hl, fun _ => Nat.le_trans hn (Nat.le_add_right _ _)⟩

theorem decFieldsW_ok (hI : Inv bo buf nfds B c d) (ts : List Ty) (off lim : Nat) :
    Ok B c d (Ty.sizeList ts) (span (decFields bo buf nfds d ts off lim) off lim)
      (decFieldsW bo buf nfds d ts off lim) (decFields bo buf nfds d ts off lim) := by
  induction ts generalizing off with
  | nil => rw [decFieldsW_nil, decFields_nil]; exact ⟨rfl, Nat.zero_le _, fun _ => Nat.zero_le _⟩
  | cons t ts ih =>
    rw [decFieldsW_cons, decFields_cons, Ty.sizeList]
    obtain ⟨w, dp, hW, h2, h3⟩ := (hI t off lim).elim
    rw [hW]
    generalize hd : dec bo buf nfds d t off lim = r0 at h3 ⊢
    rcases r0 with _ | ⟨v, o'⟩
    · exact ⟨rfl, h2, fun hB => Nat.le_trans (h3 (Nat.le_of_add_right_le hB))
        (Nat.add_le_add_right (Nat.le_add_right _ _) _)⟩
    · obtain ⟨k1, k2, -⟩ := dec_bounds hd
      obtain ⟨w', dp', hW', i2, i3⟩ := (ih o').elim
      dsimp only
      rw [hW']
      generalize hr : decFields bo buf nfds d ts o' lim = r1 at i3 ⊢
      rcases r1 with _ | ⟨vs, o''⟩
      · exact ⟨rfl, Nat.max_le.2 ⟨h2, i2⟩, fun hB => charge_add (h3 (Nat.le_of_add_right_le hB))
          (i3 (Nat.le_of_add_left_le hB)) (Nat.le_of_lt k1) k2⟩
      · exact ⟨rfl, Nat.max_le.2 ⟨h2, i2⟩, fun hB => charge_add (h3 (Nat.le_of_add_right_le hB))
          (i3 (Nat.le_of_add_left_le hB)) (Nat.le_of_lt k1) (decFields_bounds hr k2).1⟩

theorem struct_ok {c' : Nat} (hI : Inv bo buf nfds B c d) (hc : c ≤ c') (fs : List Ty) (off lim : Nat) :
    Ok B c' (d + 1) (Ty.struct fs).size (span (dec bo buf nfds (d + 1) (.struct fs) off lim) off lim)
      (decW bo buf nfds (d + 1) (.struct fs) off lim) (dec bo buf nfds (d + 1) (.struct fs) off lim) := by
  rw [decW_struct, dec_struct, Ty.size]
  split
  · exact ok_one (Nat.le_add_right _ _) (Nat.le_add_left _ _)
  · cases h1 : skipPad buf off lim 8 with
    | none => exact ok_one (Nat.le_add_right _ _) (Nat.le_add_left _ _)
    | some o =>
      obtain ⟨w, dp, hW, i2, i3⟩ := (decFieldsW_ok hI fs o lim).elim
      dsimp only
      rw [hW]
      generalize decFields bo buf nfds d fs o lim = r0 at i3 ⊢
      rcases r0 with _ | ⟨vs, o'⟩ <;>
        exact ⟨rfl, one_add_le_succ.2 i2, fun hB => charge_wrap 1 (i3 (Nat.le_of_add_left_le hB)) hc
          (Nat.sub_le_sub_left (skipPad_le h1) _)⟩

theorem decListW_ok (hI : Inv bo buf nfds B c d) (e : Ty) (off lim fuel : Nat) :
    Ok B (c + B) d (1 + e.size) (lim - off) (decListW bo buf nfds d e off lim fuel)
      (decList bo buf nfds d e off lim fuel) := by
  induction fuel generalizing off with
  | zero => rw [decListW_zero, decList_zero]; exact ok_one (Nat.le_add_right _ _) (Nat.zero_le _)
  | succ fuel ih =>
    rw [decListW_succ, decList_succ]
    split
    · exact ok_one (Nat.le_add_right _ _) (Nat.zero_le _)
    · obtain ⟨w, dp, hW, h2, h3⟩ := (hI e off lim).elim
      rw [hW]
      generalize hd : dec bo buf nfds d e off lim = r0 at h3 ⊢
      rcases r0 with _ | ⟨v, o'⟩
      · exact ⟨rfl, h2, fun hB => charge_wrap 1 (h3 (Nat.le_of_add_left_le hB)) (Nat.le_add_right _ _)
          (Nat.le_refl _)⟩
      · obtain ⟨k1, k2, -⟩ := dec_bounds hd
        obtain ⟨w', dp', hW', i2, i3⟩ := (ih o').elim
        dsimp only
        rw [hW']
        cases decList bo buf nfds d e o' lim fuel <;>
          exact ⟨rfl, Nat.max_le.2 ⟨h2, i2⟩, fun hB =>
            charge_loop (h3 (Nat.le_of_add_left_le hB)) (i3 hB) k1 k2 hB⟩

/-- the arm shared by arrays and dicts, over the element loop `L`:
    the length word is at least one byte in front of the elements, and it pays for the container's own step.
    `l` = the levels the container enters and `d'` = the budget at which `dec` reads the elements `e'`:
    `l = 1`, `d' = d` for an array; `l = 2`, `d' = d + 1` for a dict, read as the array of its entry structs.
    `hL`'s `o2 + len - o2` is `decListW_ok`'s `lim - off` at `lim = o2 + len`, left uncancelled so that both callers
    pass their loop lemma as it stands -/
theorem arrayLike_ok {cL c' l n d' a : Nat} {e' : Ty} {L : Nat → Nat → W (List Val)} {off lim : Nat}
    (hL : ∀ o2 len, Ok B cL d n (o2 + len - o2) (L o2 len) (decList bo buf nfds d' e' o2 (o2 + len) len))
    (ha : e'.align = a) (hc : cL ≤ c') (h1 : 1 ≤ c') (hn : 1 ≤ n) :
    Ok B c' (d + l) n (span (dec bo buf nfds (d' + 1) (.array e') off lim) off lim)
      (match skipPad buf off lim 4 with
      | none => ⟨none, 1, l⟩
      | some o =>
        match readNum bo buf o lim 4 with
        | none => ⟨none, 1, l⟩
        | some len =>
          if len ≤ maxArrayLen then
            match skipPad buf (o + 4) lim a with
            | none => ⟨none, 1, l⟩
            | some o2 =>
              if o2 + len ≤ lim then
                match L o2 len with
                | ⟨none, w, dp⟩ => ⟨none, 1 + w, l + dp⟩
                | ⟨some vs, w, dp⟩ => ⟨some (.arr vs, o2 + len), 1 + w, l + dp⟩
              else ⟨none, 1, l⟩
          else ⟨none, 1, l⟩)
      (dec bo buf nfds (d' + 1) (.array e') off lim) := by
  have z : ∀ m, Ok B c' (d + l) n m (⟨none, 1, l⟩ : W (Val × Nat)) none :=
    fun _ => ok_one hn (Nat.le_add_left _ _)
  subst ha
  rw [dec_array]
  cases h1 : skipPad buf off lim 4 with
  | none => exact z _
  | some o =>
    dsimp only
    cases h2 : readNum bo buf o lim 4 with
    | none => exact z _
    | some len =>
      dsimp only
      split
      · cases h3 : skipPad buf (o + 4) lim e'.align with
        | none => exact z _
        | some o2 =>
          dsimp only
          split
          · rename_i hl
            obtain ⟨w, dp, hW, i2, i3⟩ := (hL o2 len).elim
            rw [hW]
            rw [Nat.add_sub_cancel_left] at i3
            have hd : l + dp ≤ d + l := Nat.add_comm l dp ▸ Nat.add_le_add_right i2 l
            have hh : off + (len + 1) ≤ o2 + len := by have := skipPad_le h1; have := skipPad_le h3; omega
            have hw := fun {m : Nat} (hm : len + 1 ≤ m) (hB : n ≤ B) => charge_head (i3 hB) hc ‹1 ≤ c'› hm
            cases decList bo buf nfds d' e' o2 (o2 + len) len
            · exact ⟨rfl, hd, hw (Nat.le_sub_of_add_le' (Nat.le_trans hh hl))⟩
            · exact ⟨rfl, hd, hw (Nat.le_sub_of_add_le' hh)⟩
          · exact z _
      · exact z _

theorem array_ok (hI : Inv bo buf nfds B c d) (hB1 : 1 ≤ B) (e : Ty) (off lim : Nat) :
    Ok B (c + B) (d + 1) (Ty.array e).size (span (dec bo buf nfds (d + 1) (.array e) off lim) off lim)
      (decW bo buf nfds (d + 1) (.array e) off lim) (dec bo buf nfds (d + 1) (.array e) off lim) := by
  rw [decW_array, Ty.size]
  exact arrayLike_ok (fun o2 len => decListW_ok hI e o2 (o2 + len) len) rfl (Nat.le_refl _)
    (Nat.le_trans hB1 (Nat.le_add_left _ _)) (Nat.le_add_right _ _)

/-- key and value of an entry are two adjacent decodes (`charge_add`), together one element of the loop -/
theorem decEntriesW_ok (hI : Inv bo buf nfds B c d) (hc : 1 ≤ c) (k : Base) (vt : Ty) (off lim fuel : Nat) :
    Ok B (c + B) d (2 + vt.size) (lim - off) (decEntriesW bo buf nfds d k vt off lim fuel)
      (decEntries bo buf nfds d k vt off lim fuel) := by
  rw [show 2 + vt.size = 1 + (1 + vt.size) from Nat.add_assoc 1 1 _]
  induction fuel generalizing off with
  | zero => rw [decEntriesW_zero, decEntries_zero]; exact ok_one (Nat.le_add_right _ _) (Nat.zero_le _)
  | succ fuel ih =>
    rw [decEntriesW_succ, decEntries_succ]
    split
    · exact ok_one (Nat.le_add_right _ _) (Nat.zero_le _)
    · cases h1 : skipPad buf off lim 8 with
      | none => exact ok_one (Nat.le_add_right _ _) (Nat.zero_le _)
      | some o =>
        dsimp only
        have hw := fun {a : Nat} (ha : 1 ≤ a) => decBaseWork_le bo buf nfds k lim (skipPad_le h1) ha hc
        cases hk : decBase bo buf nfds k o lim with
        | none =>
          rw [hk] at hw
          exact ⟨rfl, Nat.zero_le _, fun _ =>
            charge_wrap 1 (hw (Nat.le_add_right 1 vt.size)) (Nat.le_add_right _ _) (Nat.le_refl _)⟩
        | some p =>
          obtain ⟨kv, o1⟩ := p
          rw [hk] at hw
          obtain ⟨q1, q2, _⟩ := dec_bounds ((dec_base (d := 0)).trans hk)
          have ho1 := Nat.le_trans (skipPad_le h1) (Nat.le_of_lt q1)
          obtain ⟨w, dp, hW, h2, h3⟩ := (hI vt o1 lim).elim
          dsimp only
          rw [hW]
          generalize hd : dec bo buf nfds d vt o1 lim = r0 at h3 ⊢
          have hv := fun hB : 1 + (1 + vt.size) ≤ B =>
            h3 (Nat.le_trans (Nat.le_add_left _ _) (Nat.le_of_add_left_le hB))
          rcases r0 with _ | ⟨vv, o2⟩
          · exact ⟨rfl, h2, fun hB => Nat.le_trans (Nat.le_of_eq (Nat.add_assoc 1 _ w))
              (charge_wrap 1 (charge_add (hw (Nat.le_refl 1)) (hv hB) ho1 q2) (Nat.le_add_right c B) (Nat.le_refl _))⟩
          · obtain ⟨k1, k2, -⟩ := dec_bounds hd
            obtain ⟨w', dp', hW', i2, i3⟩ := (ih o2).elim
            dsimp only
            rw [hW']
            cases decEntries bo buf nfds d k vt o2 lim fuel <;>
              exact ⟨rfl, Nat.max_le.2 ⟨h2, i2⟩, fun hB => Nat.add_assoc 1 _ w ▸
                charge_loop (charge_add (hw (Nat.le_refl 1)) (hv hB) ho1 (Nat.le_of_lt k1)) (i3 hB)
                  (Nat.lt_of_le_of_lt ho1 k1) k2 hB⟩

theorem dict_ok (hI : Inv bo buf nfds B c d) (hc : 1 ≤ c) (k : Base) (vt : Ty) (off lim : Nat) :
    Ok B (c + B + B) (d + 2) (Ty.dict k vt).size (span (dec bo buf nfds (d + 2) (.dict k vt) off lim) off lim)
      (decW bo buf nfds (d + 2) (.dict k vt) off lim) (dec bo buf nfds (d + 2) (.dict k vt) off lim) := by
  rw [decW_dict, dec_dict_eq_array, Ty.size]
  exact arrayLike_ok (e' := .struct [.base k, vt])
    (fun o2 len => decEntries_eq_decList .. ▸ decEntriesW_ok hI hc k vt o2 (o2 + len) len) rfl (Nat.le_add_right _ _)
    (Nat.le_trans hc (Nat.le_trans (Nat.le_add_right _ _) (Nat.le_add_right _ _)))
    (Nat.le_trans (by decide) (Nat.le_add_right _ _))

theorem variant_ok (hI : Inv bo buf nfds B c d) (hB : 256 ≤ B) (off lim : Nat) :
    Ok B (c + B) (d + 1) Ty.variant.size (span (dec bo buf nfds (d + 1) .variant off lim) off lim)
      (decW bo buf nfds (d + 1) .variant off lim) (dec bo buf nfds (d + 1) .variant off lim) := by
  have z : ∀ m, Ok B (c + B) (d + 1) 1 m (⟨none, 1, 1⟩ : W (Val × Nat)) none :=
    fun _ => ok_one (Nat.le_refl _) (Nat.le_add_left _ _)
  have hB1 : 1 ≤ B := Nat.le_trans (by decide) hB
  rw [decW_variant, dec_variant, Ty.size]
  cases h1 : readNum bo buf off lim 1 with
  | none => exact z _
  | some len =>
    dsimp only
    split
    · rename_i hl
      split
      · have zp : Ok B (c + B) (d + 1) 1 (lim - off) (⟨none, 1 + len, 1⟩ : W (Val × Nat)) none :=
          ⟨rfl, Nat.le_add_left _ _, fun _ => charge_sig (w := 0) (a := 0) (Nat.zero_le _) hl (Nat.zero_le B) hB1⟩
        generalize hp : Sig.parseDescription (latin1 (slice buf (off + 1) len)) = p
        match p with
        | some [t] =>
          have hsz : t.size ≤ B := Nat.le_trans (parse_size _ t hp) (Nat.le_of_succ_le hB)
          obtain ⟨w, dp, hW, i2, i3⟩ := (hI t (off + len + 2) lim).elim
          dsimp only
          rw [hW]
          generalize hd : dec bo buf nfds d t (off + len + 2) lim = r0 at i3 ⊢
          rcases r0 with _ | ⟨v, o'⟩
          · exact ⟨rfl, one_add_le_succ.2 i2, fun _ => charge_sig (i3 hsz) hl hsz hB1⟩
          · exact ⟨rfl, one_add_le_succ.2 i2, fun _ =>
              charge_sig (i3 hsz) (Nat.le_of_lt (dec_bounds hd).1) hsz hB1⟩
        | none | some [] | some (_ :: _ :: _) => exact zp
      · exact z _
    · exact z _

theorem span_le (bo : ByteOrder) (buf : List UInt8) (nfds : Option Nat) (d : Nat) (t : Ty) (off lim : Nat) :
    span (dec bo buf nfds d t off lim) off lim ≤ lim - off := by
  cases h : dec bo buf nfds d t off lim with
  | none => exact Nat.le_refl _
  | some p => exact Nat.sub_le_sub_right (dec_bounds h).2.1 off

theorem inv_all (bo : ByteOrder) (buf : List UInt8) (nfds : Option Nat) (B : Nat) (hB : 256 ≤ B) (d : Nat) :
    Inv bo buf nfds B (B * (d + 1)) d := by
  have hc : ∀ d, 1 ≤ B * (d + 1) := fun d => Nat.mul_pos (Nat.lt_of_lt_of_le (by decide) hB) (Nat.succ_pos d)
  induction d using Nat.strongRecOn with
  | _ d ih =>
    intro t off lim
    match t, d with
    | .base b, d =>
      rw [decW_base, dec_base]
      exact ⟨rfl, Nat.zero_le _, fun _ => decBaseWork_le bo buf nfds b lim (Nat.le_refl off) (Nat.le_refl 1) (hc d)⟩
    | .array e, 0 | .dict _ _, 0 | .struct _, 0 | .variant, 0 =>
      rw [decW_zero (by intro b; simp), dec_zero (by intro b; simp)]
      exact ok_one (size_pos _) (Nat.le_refl _)
    | .dict _ _, 1 => rw [decW_dict_one, dec_dict_one]; exact ok_one (size_pos _) (Nat.le_refl _)
    -- one more level costs `B` more per byte: `Nat.mul_succ` turns the goal's `B * (d + 2)` into `B * (d + 1) + B`
    | .array e, d + 1 => exact Nat.mul_succ B (d + 1) ▸ array_ok (ih d (by omega)) (Nat.le_trans (by decide) hB) e off lim
    | .dict k vt, d + 2 =>
      exact Nat.mul_succ B (d + 2) ▸ Nat.mul_succ B (d + 1) ▸ dict_ok (ih d (by omega)) (hc d) k vt off lim
    | .struct fs, d + 1 => exact struct_ok (ih d (by omega)) (Nat.mul_le_mul_left B (by omega)) fs off lim
    | .variant, d + 1 => exact Nat.mul_succ B (d + 1) ▸ variant_ok (ih d (by omega)) hB off lim

theorem decBodyW_ok (bo : ByteOrder) (buf : List UInt8) (nfds : Option Nat) (ts : List Ty) (off : Nat)
    (B : Nat) (hB : 256 ≤ B) (hs : Ty.sizeList ts ≤ B) (hoff : off ≤ buf.length) :
    (decBodyW bo buf nfds ts off).res = decBody bo buf nfds ts off ∧
    (decBodyW bo buf nfds ts off).depth ≤ maxDepth ∧
    (decBodyW bo buf nfds ts off).work ≤ Ty.sizeList ts + B * (maxDepth + 1) * (buf.length - off) := by
  obtain ⟨w, dp, hW, h2, h3⟩ := (decFieldsW_ok (inv_all bo buf nfds B hB maxDepth) ts off buf.length).elim
  rw [decBody_eq_fields, decBodyW, hW]
  generalize hf : decFields bo buf nfds maxDepth ts off buf.length = r0 at h3 ⊢
  rcases r0 with _ | ⟨vs, o⟩
  · exact ⟨rfl, h2, h3 hs⟩
  · exact ⟨rfl, h2, Nat.le_trans (h3 hs) (Nat.add_le_add_left
      (Nat.mul_le_mul_left _ (Nat.sub_le_sub_right (decFields_bounds hf hoff).2 off)) _)⟩

end Rustbus.Wire
