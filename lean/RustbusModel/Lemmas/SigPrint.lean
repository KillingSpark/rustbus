import RustbusModel.Model.Sig
import RustbusModel.Spec.Sig
/-!
Facts about the printed form `Ty.toStr` and the token classes used by all three signature models.
The recognisers are proved against the printed form, `wfList` and `Ty.depthOk` alone; `depthOk_iff` ties
`Ty.depthOk` to the depth arithmetic of `Spec.Sig`, and `validTypes_iff` / `denotes_iff` restate the grammar
in those terms.
-/
namespace Rustbus.Sig
open Rustbus.Spec.Sig

/-- from the bound `_ < fuel` of a completeness proof to the form `f + 1` that a recogniser's equations want -/
theorem exists_succ {n fuel : Nat} (h : n < fuel) : ∃ f, fuel = f + 1 :=
  ⟨fuel - 1, (Nat.sub_add_cancel (Nat.zero_lt_of_lt h)).symm⟩

theorem ofChar_char (b : Base) : Base.ofChar b.char = some b := by
  cases b <;> decide +kernel

theorem base_char_inj {b b0 : Base} (h : b.char = b0.char) : b = b0 := by
  have := ofChar_char b
  rw [h, ofChar_char] at this
  exact (Option.some.inj this).symm

theorem ofChar_eq_some {c : Char} {b : Base} (h : Base.ofChar c = some b) : c = b.char := by
  grind (splits := 20) [Base.ofChar, Base.char]

theorem ofChar_isSome {c : Char} (h : (Base.ofChar c).isSome = true) : ∃ b : Base, c = b.char := by
  cases hb : Base.ofChar c with
  | none => rw [hb] at h; cases h
  | some b => exact ⟨b, ofChar_eq_some hb⟩

theorem ofChar_nonbase : Base.ofChar '(' = none ∧ Base.ofChar ')' = none ∧ Base.ofChar 'a' = none ∧
    Base.ofChar '{' = none ∧ Base.ofChar '}' = none ∧ Base.ofChar 'v' = none := by decide +kernel

theorem base_char_ne (b : Base) {c : Char} (h : Base.ofChar c = none) : b.char ≠ c := by
  rintro rfl
  rw [ofChar_char] at h
  cases h

theorem base_char_facts (b : Base) :
    b.char ≠ '(' ∧ b.char ≠ ')' ∧ b.char ≠ 'a' ∧ b.char ≠ '{' ∧ b.char ≠ '}' ∧ b.char ≠ 'v' :=
  have ⟨h1, h2, h3, h4, h5, h6⟩ := ofChar_nonbase
  ⟨base_char_ne b h1, base_char_ne b h2, base_char_ne b h3, base_char_ne b h4, base_char_ne b h5,
    base_char_ne b h6⟩

theorem base_char_utf8Size (b : Base) : b.char.utf8Size = 1 := by
  cases b <;> decide +kernel

/-- the characters that can start a single complete type -/
def isStart (c : Char) : Bool :=
  (Base.ofChar c).isSome || c = 'v' || c = 'a' || c = '('

theorem isStart_facts {c : Char} (h : isStart c = true) :
    isTokenChar c = true ∧ c ≠ '{' ∧ c ≠ ')' := by
  simp only [isStart, Bool.or_eq_true, decide_eq_true_eq] at h
  rcases h with ((h | rfl) | rfl) | rfl
  · obtain ⟨b, rfl⟩ := ofChar_isSome h
    have := base_char_facts b
    simp [isTokenChar, ofChar_char, this]
  all_goals decide

open Ty

theorem toStr_start : (t : Ty) → ∃ c tl, toStr t = c :: tl ∧ isStart c = true
  | .base b => ⟨b.char, [], rfl, by simp [isStart, ofChar_char]⟩
  | .array e => ⟨'a', toStr e, rfl, by decide⟩
  | .dict k v => ⟨'a', '{' :: k.char :: (toStr v ++ ['}']), rfl, by decide⟩
  | .struct fs => ⟨'(', listToStr fs ++ [')'], rfl, by decide⟩
  | .variant => ⟨'v', [], rfl, by decide⟩

theorem toStr_ne_nil (t : Ty) : toStr t ≠ [] := by
  obtain ⟨c, tl, h, -⟩ := toStr_start t
  simp [h]

theorem toStr_length_pos (t : Ty) : 0 < (toStr t).length :=
  List.length_pos_iff.2 (toStr_ne_nil t)

/-! The first character of a printed type determines its outer constructor. -/

theorem toStr_head_base {t : Ty} {b : Base} (h : (toStr t).head? = some b.char) : t = .base b := by
  obtain ⟨h1, -, h3, -, -, h6⟩ := base_char_facts b
  cases t with
  | base b0 => rw [base_char_inj (Option.some.inj h)]
  | variant => exact absurd (Option.some.inj h).symm h6
  | array e | dict k v => exact absurd (Option.some.inj h).symm h3
  | struct fs => exact absurd (Option.some.inj h).symm h1

theorem toStr_head_v {t : Ty} (h : (toStr t).head? = some 'v') : t = .variant := by
  cases t with
  | base b => exact absurd (Option.some.inj h) (base_char_facts b).2.2.2.2.2
  | variant => rfl
  | array e | dict k v | struct fs => cases h

theorem toStr_head_a {t : Ty} (h : (toStr t).head? = some 'a') :
    (∃ e, t = .array e) ∨ ∃ k v, t = .dict k v := by
  cases t with
  | base b => exact absurd (Option.some.inj h) (base_char_facts b).2.2.1
  | variant => cases h
  | array e => exact .inl ⟨e, rfl⟩
  | dict k v => exact .inr ⟨k, v, rfl⟩
  | struct fs => cases h

theorem toStr_head_paren {t : Ty} (h : (toStr t).head? = some '(') : ∃ fs, t = .struct fs := by
  cases t with
  | base b => exact absurd (Option.some.inj h) (base_char_facts b).1
  | variant | array e | dict k v => cases h
  | struct fs => exact ⟨fs, rfl⟩

theorem toStr_head_ne_brace (t : Ty) : (toStr t).head? ≠ some '{' := by
  obtain ⟨c, tl, h, hs⟩ := toStr_start t
  rw [h]
  exact fun h' => (isStart_facts hs).2.1 (Option.some.inj h')

theorem toStr_last : (t : Ty) → ∃ l c, toStr t = l ++ [c] ∧ c ≠ 'a'
  | .base b => ⟨[], b.char, rfl, (base_char_facts b).2.2.1⟩
  | .array e => by
    obtain ⟨l, c, h, hc⟩ := toStr_last e
    exact ⟨'a' :: l, c, by rw [toStr, h]; rfl, hc⟩
  | .dict k v => ⟨'a' :: '{' :: k.char :: toStr v, '}', rfl, by decide⟩
  | .struct fs => ⟨'(' :: listToStr fs, ')', rfl, by decide⟩
  | .variant => ⟨[], 'v', rfl, by decide⟩

theorem listToStr_append (xs ys : List Ty) :
    listToStr (xs ++ ys) = listToStr xs ++ listToStr ys := by
  induction xs with
  | nil => simp [listToStr]
  | cons x xs ih => simp [listToStr, ih]

theorem listToStr_single (t : Ty) : listToStr [t] = toStr t := List.append_nil _

theorem toStr_length_le_of_mem {t : Ty} {ts : List Ty} (h : t ∈ ts) :
    t.toStr.length ≤ (Ty.listToStr ts).length := by
  induction ts with
  | nil => cases h
  | cons u us ih =>
    simp only [Ty.listToStr, List.length_append]
    rcases List.mem_cons.mp h with rfl | h'
    · exact Nat.le_add_right _ _
    · exact Nat.le_trans (ih h') (Nat.le_add_left _ _)

theorem utf8Len_nil : utf8Len [] = 0 := rfl
theorem utf8Len_cons (c : Char) (s : List Char) : utf8Len (c :: s) = c.utf8Size + utf8Len s := rfl
theorem utf8Len_append (s t : List Char) : utf8Len (s ++ t) = utf8Len s + utf8Len t := by
  simp [utf8Len]

theorem length_le_utf8Len (s : List Char) : s.length ≤ utf8Len s := by
  induction s with
  | nil => simp [utf8Len]
  | cons c s ih =>
    rw [utf8Len_cons, List.length_cons, Nat.add_comm]
    exact Nat.add_le_add c.utf8Size_pos ih

theorem toNat_lt_of_utf8Len {s : List Char} (h : utf8Len s = s.length) : ∀ c ∈ s, c.toNat < 256 := by
  induction s with
  | nil => exact fun _ h => absurd h List.not_mem_nil
  | cons a s ih =>
    rw [utf8Len_cons, List.length_cons] at h
    have h1 := length_le_utf8Len s
    have h2 := a.utf8Size_pos
    rw [List.forall_mem_cons]
    refine ⟨?_, ih (by omega)⟩
    have := UInt32.le_iff_toNat_le.1 (Char.utf8Size_eq_one_iff.1 (by omega : a.utf8Size = 1))
    exact Nat.lt_of_le_of_lt this (by decide)

mutual
theorem utf8Len_toStr : (t : Ty) → utf8Len (toStr t) = (toStr t).length
  | .base b => by simp [toStr, utf8Len, base_char_utf8Size b]
  | .array e => by
    simp only [toStr, utf8Len_cons, List.length_cons, utf8Len_toStr e]
    exact Nat.add_comm ..
  | .dict k v => by
    simp only [toStr, utf8Len_cons, utf8Len_append, List.length_cons, List.length_append, utf8Len_toStr v,
      base_char_utf8Size k, show 'a'.utf8Size = 1 from rfl, show '{'.utf8Size = 1 from rfl,
      show utf8Len ['}'] = 1 from rfl, List.length_nil]
    omega
  | .struct fs => by
    simp only [toStr, utf8Len_cons, utf8Len_append, List.length_cons, List.length_append,
      utf8Len_listToStr fs]
    exact Nat.add_comm ..
  | .variant => rfl
theorem utf8Len_listToStr : (ts : List Ty) → utf8Len (listToStr ts) = (listToStr ts).length
  | [] => rfl
  | t :: ts => by
    simp only [listToStr, utf8Len_append, List.length_append, utf8Len_toStr t, utf8Len_listToStr ts]
end

theorem wfList_iff (ts : List Ty) : wfList ts = true ↔ ∀ t ∈ ts, t.wf = true := by
  induction ts with
  | nil => simp [wfList]
  | cons t ts ih => simp [wfList, ih]

mutual
theorem depthOk_iff : (t : Ty) → t.wf = true → ∀ sd ad,
    (t.depthOk sd ad = true ↔ sd + structDepth t ≤ 32 ∧ ad + arrayDepth t ≤ 32)
  | .base _, _, sd, ad | .variant, _, sd, ad => by simp [depthOk, structDepth, arrayDepth]
  | .array e, h, sd, ad => by
    simp only [depthOk, structDepth, arrayDepth, Bool.and_eq_true, decide_eq_true_eq,
      depthOk_iff e h sd (ad + 1)]
    omega
  | .dict _ v, h, sd, ad => by
    simp only [depthOk, structDepth, arrayDepth, Bool.and_eq_true, decide_eq_true_eq,
      depthOk_iff v h sd (ad + 1)]
    omega
  | .struct fs, h, sd, ad => by
    simp only [wf, Bool.and_eq_true] at h
    simp only [depthOk, structDepth, arrayDepth, Bool.and_eq_true, decide_eq_true_eq,
      depthOkList_iff fs h.2 (by simpa using h.1) (sd + 1) ad]
    omega
theorem depthOkList_iff : (ts : List Ty) → wfList ts = true → ts ≠ [] → ∀ sd ad,
    (depthOkList ts sd ad = true ↔ sd + structDepthList ts ≤ 32 ∧ ad + arrayDepthList ts ≤ 32)
  | [], _, h, _, _ => absurd rfl h
  | [t], hw, _, sd, ad => by
    -- the recursion stops here and not at `[]`: `depthOkList []` holds for every `sd`, `sd + 0 ≤ 32` does not
    simp only [wfList, Bool.and_true] at hw
    simp only [depthOkList, structDepthList, arrayDepthList, Bool.and_true, depthOk_iff t hw sd ad,
      Nat.max_zero]
  | t :: t' :: ts, hw, _, sd, ad => by
    rw [wfList, Bool.and_eq_true] at hw
    rw [depthOkList, structDepthList, arrayDepthList, Bool.and_eq_true, depthOk_iff t hw.1 sd ad,
      depthOkList_iff (t' :: ts) hw.2 (List.cons_ne_nil _ _) sd ad, ← Nat.add_max_add_left,
      ← Nat.add_max_add_left, Nat.max_le, Nat.max_le]
    exact and_and_and_comm
end

theorem depthOk_le {t : Ty} {sd ad : Nat} (h : t.depthOk sd ad = true) : sd ≤ 32 ∧ ad ≤ 32 := by
  cases t <;> simp only [depthOk, Bool.and_eq_true, decide_eq_true_eq] at h <;> omega

theorem validTypes_iff {ts : List Ty} :
    ValidTypes ts ↔ wfList ts = true ∧ ts.all (fun t => t.depthOk 0 0) = true := by
  simp only [wfList_iff, List.all_eq_true, ← forall_and]
  refine forall_congr' fun t => imp_congr_right fun _ => and_congr_right fun hw => ?_
  rw [depthOk_iff t hw]
  omega

theorem denotes_iff {s : List Char} {ts : List Ty} : Denotes s ts ↔
    utf8Len s ≤ 255 ∧ s = listToStr ts ∧ wfList ts = true ∧ ts.all (fun t => t.depthOk 0 0) = true := by
  rw [← validTypes_iff]
  constructor
  · rintro ⟨hl, rfl, hv⟩
    exact ⟨utf8Len_listToStr ts ▸ hl, rfl, hv⟩
  · rintro ⟨hl, rfl, hv⟩
    exact ⟨Nat.le_trans (length_le_utf8Len _) hl, rfl, hv⟩

theorem denotes_of_mem {s : List Char} {ts : List Ty} {t : Ty} (h : Denotes s ts) (ht : t ∈ ts) :
    Denotes t.toStr [t] := by
  refine ⟨Nat.le_trans (toStr_length_le_of_mem ht) (h.2.1 ▸ h.1), (listToStr_single t).symm, fun u hu => ?_⟩
  rw [List.mem_singleton] at hu
  exact hu ▸ h.2.2 t ht

end Rustbus.Sig
