import RustbusModel.Lemmas.FdTableOps
/-!
C11: what `installAll` (receiving) and `filesOf` / `rawFdsOf` (sending) compute, position by position.
-/
namespace Rustbus.FdTable

/-- `refill_buffer`: what installing the descriptors of one message (its files `fs`, the new cells `cs`) did -/
structure Installed (s s1 : State) (fs cs : List Nat) : Prop where
  len : cs.length = fs.length
  each : ∀ (j f : Nat), fs[j]? = some f → ∃ c, cs[j]? = some c ∧
    s1.cells[c]? = some (Cell.mk (s.nextFd + j) false 1) ∧ lookupFd s1.open (s.nextFd + j) = some f ∧
    (s.nextFd + j) ∈ s1.lib
  fresh : ∀ c, c ∈ cs → s.cells.length ≤ c
  cells : ∀ (c : Nat) (x : Cell), s.cells[c]? = some x → s1.cells[c]? = some x
  lookupMono : ∀ d f, lookupFd s.open d = some f → lookupFd s1.open d = some f
  nextFd : s1.nextFd = s.nextFd + fs.length
  handles : s1.handles = s.handles
  bodies : s1.bodies = s.bodies
  raws : s1.raws = s.raws
  takenFds : s1.takenFds = s.takenFds
  libMono : ∀ d, d ∈ s.lib → d ∈ s1.lib

theorem installAll_spec : ∀ (fs : List Nat) (s : State), (∀ d, d ∈ keys s.open → d < s.nextFd) →
    Installed s (installAll s fs).1 fs (installAll s fs).2
  | [], s, _ =>
    ⟨rfl, by simp, by simp [installAll], fun _ _ h => h, fun _ _ h => h, rfl, rfl, rfl, rfl, rfl, fun _ h => h⟩
  | f :: fs, s, hb => by
    simp only [installAll]
    have hi := installAll_spec fs (createOwned s f).1 (bound_install f hb)
    have hn' : (createOwned s f).1.nextFd = s.nextFd + 1 := rfl
    exact { hi with
      len := by simp [hi.len]
      each := fun j g hj => by
        cases j with
        | zero =>
          cases hj
          exact ⟨s.cells.length, rfl, hi.cells _ _ List.getElem?_concat_length,
            hi.lookupMono _ _ (lookup_append_fresh (fresh_of_bound hb)), hi.libMono _ (by simp [createOwned_eq])⟩
        | succ n =>
          obtain ⟨c, h1, h2, h3, h4⟩ := hi.each n g hj
          rw [hn', show s.nextFd + 1 + n = s.nextFd + (n + 1) by omega] at h2 h3 h4
          exact ⟨c, h1, h2, h3, h4⟩
      fresh := fun c hc => by
        rcases List.mem_cons.1 hc with rfl | hc
        · exact Nat.le_refl _
        · exact Nat.le_of_succ_le (by simpa [createOwned_eq] using hi.fresh c hc)
      cells := fun c x hx => hi.cells c x (getElem?_concat.2 (Or.inl hx))
      lookupMono := fun k g hk => hi.lookupMono k g (lookup_append_left hk)
      nextFd := by rw [hi.nextFd, hn', List.length_cons]; omega
      libMono := fun d hd => hi.libMono d (List.mem_append_left _ hd) }

theorem filesOf_spec (s : State) : ∀ (l : List Nat), (∀ d, d ∈ l → d ∈ keys s.open) →
    ∃ fl, filesOf s l = some fl ∧ fl.length = l.length ∧
      ∀ (j d : Nat), l[j]? = some d → ∃ f, fl[j]? = some f ∧ lookupFd s.open d = some f
  | [], _ => ⟨[], rfl, rfl, by simp⟩
  | d :: ds, h => by
    obtain ⟨f, hf⟩ := lookup_of_mem_keys (h d (by simp))
    obtain ⟨fl, h1, h2, h3⟩ := filesOf_spec s ds (fun k hk => h k (by simp [hk]))
    refine ⟨f :: fl, by simp [filesOf, hf, h1], by simp [h2], ?_⟩
    intro j k hj
    cases j with
    | zero => cases hj; exact ⟨f, rfl, hf⟩
    | succ n => exact h3 n k hj

theorem rawFdsOf_open {s : State} (hs : Inv s) {b : Nat} {bd : Body} (hb : s.bodies[b]? = some bd) :
    ∀ d, d ∈ rawFdsOf s bd.fds → d ∈ keys s.open := by
  intro d hd
  simp only [rawFdsOf, List.mem_filterMap] at hd
  obtain ⟨c, hc, hd⟩ := hd
  obtain ⟨x, hx, _, ho⟩ := live_cell hs (refCount_pos_of_entry hb hc)
  simp only [hx] at hd
  split at hd
  · cases hd
  · next htk => cases hd; exact (ho (by simpa using htk)).1

theorem rawFdsOf_untaken (s : State) : ∀ (fds : List Nat),
    (∀ c, c ∈ fds → ∃ x, s.cells[c]? = some x ∧ x.taken = false) →
    (rawFdsOf s fds).length = fds.length ∧
      ∀ (j c : Nat), fds[j]? = some c → ∃ x, s.cells[c]? = some x ∧ (rawFdsOf s fds)[j]? = some x.fd
  | [], _ => by simp [rawFdsOf]
  | c :: cs, h => by
    obtain ⟨x, hx, htk⟩ := h c (by simp)
    obtain ⟨h1, h2⟩ := rawFdsOf_untaken s cs (fun k hk => h k (by simp [hk]))
    have e : rawFdsOf s (c :: cs) = x.fd :: rawFdsOf s cs := by
      simp [rawFdsOf, hx, htk]
    rw [e]
    refine ⟨by simp [h1], ?_⟩
    intro j k hj
    cases j with
    | zero => cases hj; exact ⟨x, hx, rfl⟩
    | succ n => exact h2 n k hj

end Rustbus.FdTable
