import RustbusModel.Spec.Header
import RustbusModel.Lemmas.WireBytes
/-!
The marshaller `marshalHeader` in closed form: field by field it appends `rawEntry` of the entries `msgEntries`
(`chain_*`), so it refuses exactly a bad type, a bad name and the two size limits, and writes `marshalOut`
(`marshalHeader_eq_some`), the serial at offset 8 (`serial_in_frame`). Plain list computation.
-/
namespace Rustbus.Header
open Rustbus.Bytes Rustbus.Wire Rustbus.Spec.Header

/-- what `fieldStart` appends: padding to 8, field code, the signature `ch` of a basic type (length 1, `ch`, NUL) -/
def fieldHead (off code : Nat) (ch : UInt8) : List UInt8 :=
  zeros (padLen 8 off) ++ [UInt8.ofNat code, 1, ch, 0]

theorem fieldHead_length (off code : Nat) (ch : UInt8) : (fieldHead off code ch).length = padLen 8 off + 4 := by
  simp [fieldHead]

/-- behind a field's head (four bytes after the padding to 8) the offset is 4 mod 8: the value needs no padding.
    `+ 1 + 1 + 2`, not `+ 4`: the shape the offset has where the lemma is used, in `fieldStart_eq` (length of
    `[code, 1, ch, 0]`) and in `enc_simple` (`enc_entryVal`'s `+ 1 + (sigBytes t).length + 2` at a basic type) -/
theorem padLen4_after (off : Nat) : padLen 4 (off + padLen 8 off + 1 + 1 + 2) = 0 :=
  (padLen_congr (a := 4) ⟨2, rfl⟩ (mod8_add (b := 0) (padLen_add_mod (by decide) off) 4)).trans (by decide)

theorem fieldStart_eq (code : Nat) (ch : UInt8) (buf : List UInt8) :
    fieldStart code ch buf = buf ++ fieldHead buf.length code ch := by
  have : (padTo 8 buf ++ [UInt8.ofNat code, 1, ch, 0]).length = buf.length + padLen 8 buf.length + 1 + 1 + 2 := by
    simp only [padTo, List.length_append, zeros_length]; rfl
  rw [fieldStart, padTo.eq_def 4, this, padLen4_after]
  simp [padTo, fieldHead, zeros]

/-- what the per-field writers append for an entry when the buffer is `off` bytes long -/
def rawEntry (bo : ByteOrder) (off : Nat) : Entry → List UInt8
  | (c, .base .u32, .num n) => fieldHead off c 117 ++ bytesOf bo 4 n
  | (c, .base .string, .str s) => fieldHead off c 115 ++ (bytesOf bo 4 s.length ++ (s ++ [0]))
  | (c, .base .objpath, .str s) => fieldHead off c 111 ++ (bytesOf bo 4 s.length ++ (s ++ [0]))
  | (c, .base .signature, .str s) => fieldHead off c 103 ++ (UInt8.ofNat s.length :: (s ++ [0]))
  | _ => []

def rawList (bo : ByteOrder) (off : Nat) : List Entry → List UInt8
  | [] => []
  | e :: es => rawEntry bo off e ++ rawList bo (off + (rawEntry bo off e).length) es

theorem rawList_append (bo : ByteOrder) (a b : List Entry) (off : Nat) :
    rawList bo off (a ++ b) = rawList bo off a ++ rawList bo (off + (rawList bo off a).length) b := by
  induction a generalizing off with
  | nil => simp [rawList]
  | cons e es ih =>
    simp only [List.cons_append, rawList, ih, List.append_assoc, List.length_append, Nat.add_assoc]

theorem raw_step (bo : ByteOrder) (start : List UInt8) (es1 es2 : List Entry) :
    (start ++ rawList bo start.length es1) ++ rawList bo (start ++ rawList bo start.length es1).length es2 =
      start ++ rawList bo start.length (es1 ++ es2) := by
  rw [rawList_append, List.length_append, List.append_assoc]

def optU32 (c : Nat) (n? : Option Nat) : List Entry :=
  match n? with | some n => [(c, .base .u32, .num n)] | none => []
def optStr (c : Nat) (s? : Option (List UInt8)) : List Entry :=
  match s? with | some s => [(c, .base .string, .str s)] | none => []
def optPath (s? : Option (List UInt8)) : List Entry :=
  match s? with | some s => [(1, .base .objpath, .str s)] | none => []
def optSig (m : Msg) : List Entry :=
  if m.body.isEmpty then [] else [(8, .base .signature, .str m.bodySig)]
def optFds (m : Msg) : List Entry :=
  if m.nfds = 0 then [] else [(9, .base .u32, .num m.nfds)]

theorem msgEntries_eq (m : Msg) :
    msgEntries m = optU32 5 m.replySerial ++ optStr 2 m.interface ++ optStr 6 m.destination ++
      optStr 7 m.sender ++ optStr 3 m.member ++ optPath m.path ++ optStr 4 m.errorName ++
      optSig m ++ optFds m := rfl

theorem forall_optU32 (c : Nat) (n? : Option Nat) (P : Entry → Prop) :
    (∀ e ∈ optU32 c n?, P e) ↔ ∀ n, n? = some n → P (c, .base .u32, .num n) := by
  cases n? <;> simp [optU32]
theorem forall_optStr (c : Nat) (s? : Option (List UInt8)) (P : Entry → Prop) :
    (∀ e ∈ optStr c s?, P e) ↔ ∀ s, s? = some s → P (c, .base .string, .str s) := by
  cases s? <;> simp [optStr]
theorem forall_optPath (s? : Option (List UInt8)) (P : Entry → Prop) :
    (∀ e ∈ optPath s?, P e) ↔ ∀ s, s? = some s → P (1, .base .objpath, .str s) := by
  cases s? <;> simp [optPath]
theorem forall_optSig (m : Msg) (P : Entry → Prop) :
    (∀ e ∈ optSig m, P e) ↔ (m.body.isEmpty = false → P (8, .base .signature, .str m.bodySig)) := by
  by_cases h : m.body.isEmpty = true <;> simp [optSig, h]
theorem forall_optFds (m : Msg) (P : Entry → Prop) :
    (∀ e ∈ optFds m, P e) ↔ (m.nfds ≠ 0 → P (9, .base .u32, .num m.nfds)) := by
  by_cases h : m.nfds = 0 <;> simp [optFds, h]

theorem forall_msgEntries {m : Msg} {P : Entry → Prop} :
    (∀ e ∈ msgEntries m, P e) ↔
      (∀ n, m.replySerial = some n → P (5, .base .u32, .num n)) ∧
      (∀ s, m.interface = some s → P (2, .base .string, .str s)) ∧
      (∀ s, m.destination = some s → P (6, .base .string, .str s)) ∧
      (∀ s, m.sender = some s → P (7, .base .string, .str s)) ∧
      (∀ s, m.member = some s → P (3, .base .string, .str s)) ∧
      (∀ s, m.path = some s → P (1, .base .objpath, .str s)) ∧
      (∀ s, m.errorName = some s → P (4, .base .string, .str s)) ∧
      (m.body.isEmpty = false → P (8, .base .signature, .str m.bodySig)) ∧
      (m.nfds ≠ 0 → P (9, .base .u32, .num m.nfds)) := by
  rw [msgEntries_eq]
  simp only [List.forall_mem_append, forall_optU32, forall_optStr, forall_optPath, forall_optSig,
    forall_optFds, and_assoc]

theorem chain_u32 {bo : ByteOrder} {c : Nat} {n? : Option Nat} {start : List UInt8} {es : List Entry} :
    putU32Field bo c n? (start ++ rawList bo start.length es) =
      start ++ rawList bo start.length (es ++ optU32 c n?) := by
  rw [← raw_step]
  cases n? with
  | none => simp [putU32Field, optU32, rawList]
  | some n => simp [putU32Field, optU32, rawList, rawEntry, fieldStart_eq]

theorem chain_str {bo : ByteOrder} {c : Nat} {s? : Option (List UInt8)} {start : List UInt8} {es : List Entry}
    (hn : ∀ s, s? = some s → nameOk c s = true) :
    putStrField bo c 115 s? (start ++ rawList bo start.length es) =
      some (start ++ rawList bo start.length (es ++ optStr c s?)) := by
  rw [← raw_step]
  cases s? with
  | none => simp [putStrField, optStr, rawList]
  | some s => simp [putStrField, optStr, rawList, rawEntry, fieldStart_eq, hn s rfl]

theorem chain_path {bo : ByteOrder} {s? : Option (List UInt8)} {start : List UInt8} {es : List Entry}
    (hn : ∀ s, s? = some s → nameOk 1 s = true) :
    putStrField bo 1 111 s? (start ++ rawList bo start.length es) =
      some (start ++ rawList bo start.length (es ++ optPath s?)) := by
  rw [← raw_step]
  cases s? with
  | none => simp [putStrField, optPath, rawList]
  | some s => simp [putStrField, optPath, rawList, rawEntry, fieldStart_eq, hn s rfl]

theorem chain_sig {m : Msg} {start : List UInt8} {es : List Entry}
    (hn : m.body.isEmpty = false → Sig.validateSignature (latin1 m.bodySig) = true) :
    (if m.body.isEmpty then some (start ++ rawList m.bo start.length es)
      else if Sig.validateSignature (latin1 m.bodySig) then
        some (fieldStart 8 103 (start ++ rawList m.bo start.length es) ++
          (UInt8.ofNat m.bodySig.length :: (m.bodySig ++ [0])))
      else none) = some (start ++ rawList m.bo start.length (es ++ optSig m)) := by
  rw [← raw_step]
  by_cases hb : m.body.isEmpty = true
  · simp [hb, optSig, rawList]
  · simp [hb, hn (by simpa using hb), optSig, rawList, rawEntry, fieldStart_eq]

theorem chain_fds {m : Msg} {start : List UInt8} {n : Nat} {es : List Entry} :
    (if m.nfds = 0 then start ++ rawList m.bo n es
      else start ++ rawList m.bo n (es ++ optU32 9 (some m.nfds))) =
      start ++ rawList m.bo n (es ++ optFds m) := by
  by_cases hn : m.nfds = 0 <;> simp [optFds, optU32, hn]

/-- everything `marshal` validates before writing -/
def NamesOk (m : Msg) : Prop :=
  (∀ s, m.interface = some s → nameOk 2 s = true) ∧ (∀ s, m.destination = some s → nameOk 6 s = true) ∧
  (∀ s, m.sender = some s → nameOk 7 s = true) ∧ (∀ s, m.member = some s → nameOk 3 s = true) ∧
  (∀ s, m.path = some s → nameOk 1 s = true) ∧ (∀ s, m.errorName = some s → nameOk 4 s = true) ∧
  (m.body.isEmpty = false → Sig.validateSignature (latin1 m.bodySig) = true)

/-- the bytes `marshal` produces when it does not refuse -/
def marshalOut (m : Msg) (serial : Nat) : List UInt8 :=
  padTo 8 (fixedBytes ⟨m.bo, m.typ, m.flags, m.body.length, serial⟩ ++
    (bytesOf m.bo 4 (rawList m.bo 16 (msgEntries m)).length ++ rawList m.bo 16 (msgEntries m)))

theorem fixedBytes_length (fx : Fixed) : (fixedBytes fx).length = 12 := by simp [fixedBytes]

theorem marshalOut_length (m : Msg) (serial : Nat) :
    (marshalOut m serial).length = 16 + (rawList m.bo 16 (msgEntries m)).length +
      padLen 8 (16 + (rawList m.bo 16 (msgEntries m)).length) := by
  simp only [marshalOut, padTo, List.length_append, fixedBytes_length, bytesOf_length, zeros_length, ← Nat.add_assoc]

theorem putStrField_some {bo : ByteOrder} {c : Nat} {ch : UInt8} {s? : Option (List UInt8)}
    {buf b : List UInt8} (h : putStrField bo c ch s? buf = some b) :
    ∀ s, s? = some s → nameOk c s = true := by
  intro s hs; subst hs
  unfold putStrField at h
  simp only at h
  split at h
  · assumption
  · simp at h

theorem step_some {o : Option (List UInt8)} {f : List UInt8 → Option (List UInt8)} {out : List UInt8}
    (h : (match o with
      | none => none
      | some b => f b) = some out) : ∃ b, o = some b ∧ f b = some out := by
  split at h
  · cases h
  · exact ⟨_, rfl, h⟩

theorem marshalHeader_inputOk {m : Msg} {serial : Nat} {out : List UInt8}
    (h : marshalHeader m serial = some out) : 1 ≤ m.typ ∧ m.typ ≤ 4 ∧ NamesOk m := by
  unfold marshalHeader at h
  split at h
  · cases h
  · rename_i ht
    obtain ⟨b2, h2, h⟩ := step_some h
    obtain ⟨b3, h3, h⟩ := step_some h
    obtain ⟨b4, h4, h⟩ := step_some h
    obtain ⟨b5, h5, h⟩ := step_some h
    obtain ⟨b6, h6, h⟩ := step_some h
    obtain ⟨b7, h7, h⟩ := step_some h
    obtain ⟨b8, h8, -⟩ := step_some h
    refine ⟨Nat.pos_of_ne_zero (fun h => ht (Or.inl h)), Nat.le_of_not_lt (fun h => ht (Or.inr h)),
      putStrField_some h2, putStrField_some h3, putStrField_some h4, putStrField_some h5, putStrField_some h6,
      putStrField_some h7, fun hb => ?_⟩
    rw [if_neg (by simp [hb])] at h8
    split at h8
    · assumption
    · cases h8

theorem marshalHeader_of_inputOk (m : Msg) (serial : Nat) (h1 : 1 ≤ m.typ) (h4 : m.typ ≤ 4) (hn : NamesOk m) :
    marshalHeader m serial =
      if (rawList m.bo 16 (msgEntries m)).length > maxArrayLen then none
      else if (marshalOut m serial).length + m.body.length > maxMessageLen then none
      else some (marshalOut m serial) := by
  obtain ⟨n2, n6, n7, n3, n1, n4, n8⟩ := hn
  unfold marshalHeader
  rw [if_neg fun h => h.elim (fun h0 => absurd (h0 ▸ h1) (by decide)) (Nat.not_lt_of_le h4)]
  generalize hstart : ([if m.bo = ByteOrder.le then (108 : UInt8) else 66, UInt8.ofNat m.typ,
    UInt8.ofNat m.flags, 1] ++ (bytesOf m.bo 4 m.body.length ++ (bytesOf m.bo 4 serial ++ [0, 0, 0, 0]))) = start
  have hl : start.length = 16 := by subst hstart; simp
  -- seed the chain with the empty entry list: the `chain_*` equations rewrite `… (start ++ rawList … es)`
  rw [show start = start ++ rawList m.bo start.length [] from (List.append_nil _).symm]
  simp only [chain_u32, chain_str n2, chain_str n6, chain_str n7, chain_str n3, chain_path n1, chain_str n4,
    chain_sig n8, chain_fds, List.nil_append, ← msgEntries_eq]
  rw [hl]
  have hfix : start = fixedBytes ⟨m.bo, m.typ, m.flags, m.body.length, serial⟩ ++ [0, 0, 0, 0] := by
    subst hstart; simp [fixedBytes]
  have ht : (start ++ rawList m.bo 16 (msgEntries m)).take 12 =
      fixedBytes ⟨m.bo, m.typ, m.flags, m.body.length, serial⟩ := by
    rw [hfix, List.append_assoc]
    exact List.take_left' (by simp [fixedBytes])
  have hd : (start ++ rawList m.bo 16 (msgEntries m)).drop 16 = rawList m.bo 16 (msgEntries m) :=
    List.drop_left' hl
  have hlen : (start ++ rawList m.bo 16 (msgEntries m)).length - 16 = (rawList m.bo 16 (msgEntries m)).length := by
    simp [hl]
  simp only [ht, hd, hlen]
  rfl

theorem marshalHeader_eq_some {m : Msg} {serial : Nat} {out : List UInt8} :
    marshalHeader m serial = some out ↔
      1 ≤ m.typ ∧ m.typ ≤ 4 ∧ NamesOk m ∧ (rawList m.bo 16 (msgEntries m)).length ≤ maxArrayLen ∧
        (marshalOut m serial).length + m.body.length ≤ maxMessageLen ∧ out = marshalOut m serial := by
  constructor
  · intro h
    obtain ⟨h1, h4, hn⟩ := marshalHeader_inputOk h
    rw [marshalHeader_of_inputOk m serial h1 h4 hn] at h
    split at h
    · cases h
    · split at h
      · cases h
      · rename_i ha hs
        cases h
        exact ⟨h1, h4, hn, Nat.le_of_not_lt ha, Nat.le_of_not_lt hs, rfl⟩
  · rintro ⟨h1, h4, hn, ha, hs, rfl⟩
    rw [marshalHeader_of_inputOk m serial h1 h4 hn, if_neg (Nat.not_lt.2 ha), if_neg (Nat.not_lt.2 hs)]

theorem serial_in_frame (m : Msg) (serial : Nat) (out rest : List UInt8)
    (h : marshalHeader m serial = some out) (hs : serial < 256 ^ 4) :
    valOf m.bo (slice (out ++ rest) 8 4) = serial := by
  obtain rfl := (marshalHeader_eq_some.1 h).2.2.2.2.2
  -- `marshalOut` starts with the 12 fixed bytes, and the serial is the last four of them
  simp only [marshalOut, padTo, fixedBytes, List.append_assoc]
  rw [← List.append_assoc, slice_mid _ (bytesOf m.bo 4 serial) _ 8 4 (by simp) (by simp)]
  exact valOf_bytesOf m.bo 4 serial hs

end Rustbus.Header
