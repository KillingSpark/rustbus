import RustbusModel.Spec.FdTable
/-!
C11: the invariant `InvP p` of the descriptor table and its preservation by the micro-steps the operations are
composed of. A micro-step on the table, a cell or the caller's set is stated on the record update it makes,
`incr` / `decr` / `dropRefs` / `createOwned` on the model's own helper functions.
-/
namespace Rustbus.FdTable

theorem mem_concat {l : List Nat} {a d : Nat} : d ∈ l ++ [a] ↔ d ∈ l ∨ d = a := by simp

theorem mem_filter_ne {l : List Nat} {a d : Nat} : d ∈ l.filter (· != a) ↔ d ∈ l ∧ d ≠ a := by simp

theorem nodup_concat {l : List Nat} {a : Nat} (h : l.Nodup) (ha : a ∉ l) : (l ++ [a]).Nodup :=
  List.nodup_append.2 ⟨h, by simp, fun _ hx _ hb e => ha (List.mem_singleton.1 hb ▸ e ▸ hx)⟩

theorem lt_length_of_getElem? {α : Type} {l : List α} {c : Nat} {x : α} (h : l[c]? = some x) :
    c < l.length :=
  (List.getElem?_eq_some_iff.1 h).1

theorem getElem?_set_of_some {α : Type} {l : List α} {c : Nat} {x : α} (y : α) (c' : Nat)
    (h : l[c]? = some x) : (l.set c y)[c']? = if c' = c then some y else l[c']? := by
  rw [List.getElem?_set, if_pos (lt_length_of_getElem? h)]
  by_cases e : c = c'
  · simp [e]
  · simp [e, Ne.symm e]

theorem getElem?_concat {α : Type} {l : List α} {y x : α} {c : Nat} :
    (l ++ [y])[c]? = some x ↔ l[c]? = some x ∨ (c = l.length ∧ y = x) := by
  rw [List.getElem?_append]
  split
  · next h => exact ⟨Or.inl, fun h' => h'.elim id (fun e => absurd e.1 (Nat.ne_of_lt h))⟩
  · next h =>
    rw [List.getElem?_eq_none (Nat.le_of_not_lt h), List.getElem?_singleton]
    have : c - l.length = 0 ↔ c = l.length := by omega
    split <;> simp_all

theorem sum_map_set {α : Type} (g : α → Nat) :
    ∀ (l : List α) (i : Nat) (a b : α), l[i]? = some a →
      ((l.set i b).map g).sum + g a = (l.map g).sum + g b
  | [], _, _, _, h => by simp at h
  | x :: t, 0, a, b, h => by
    cases h
    simp only [List.set_cons_zero, List.map_cons, List.sum_cons]; omega
  | x :: t, i + 1, a, b, h => by
    have := sum_map_set g t i a b h
    simp only [List.set_cons_succ, List.map_cons, List.sum_cons]; omega

theorem sum_map_append {α : Type} (g : α → Nat) (l r : List α) :
    ((l ++ r).map g).sum = (l.map g).sum + (r.map g).sum := by
  simp [List.sum_append]

theorem lookup_append (l r : List (Nat × Nat)) (d : Nat) :
    lookupFd (l ++ r) d = (lookupFd l d).or (lookupFd r d) := by
  induction l with
  | nil => rfl
  | cons p t ih =>
    simp only [List.cons_append, lookupFd]
    split
    · rfl
    · exact ih

theorem mem_keys_of_lookup' {l : List (Nat × Nat)} {d f : Nat} (h : lookupFd l d = some f) :
    d ∈ keys l := by
  induction l with
  | nil => cases h
  | cons p r ih =>
    simp only [lookupFd] at h
    split at h
    · next hk => exact hk ▸ List.mem_cons_self
    · exact List.mem_cons_of_mem _ (ih h)

theorem lookup_none_of_not_mem {l : List (Nat × Nat)} {d : Nat} (h : d ∉ keys l) :
    lookupFd l d = none :=
  Option.eq_none_iff_forall_ne_some.2 fun _ hl => h (mem_keys_of_lookup' hl)

theorem lookup_of_mem_keys {l : List (Nat × Nat)} {d : Nat} (h : d ∈ keys l) :
    ∃ f, lookupFd l d = some f := by
  induction l with
  | nil => cases h
  | cons p r ih =>
    simp only [lookupFd]
    split
    · exact ⟨_, rfl⟩
    · next hk => exact ih ((List.mem_cons.1 h).resolve_left (Ne.symm hk))

theorem lookup_append_left {l r : List (Nat × Nat)} {d f : Nat} (h : lookupFd l d = some f) :
    lookupFd (l ++ r) d = some f := by
  rw [lookup_append, h]; rfl

theorem lookup_append_fresh {l : List (Nat × Nat)} {d f : Nat} (h : d ∉ keys l) :
    lookupFd (l ++ [(d, f)]) d = some f := by
  rw [lookup_append, lookup_none_of_not_mem h]
  simp [lookupFd]

theorem lookup_append_ne {l : List (Nat × Nat)} {d n f : Nat} (h : d ≠ n) :
    lookupFd (l ++ [(n, f)]) d = lookupFd l d := by
  rw [lookup_append]
  simp [lookupFd, Ne.symm h]

theorem keys_append (l r : List (Nat × Nat)) : keys (l ++ r) = keys l ++ keys r := by
  simp [keys]

theorem mem_keys_concat {l : List (Nat × Nat)} {n f d : Nat} :
    d ∈ keys (l ++ [(n, f)]) ↔ d ∈ keys l ∨ d = n :=
  keys_append l _ ▸ mem_concat

theorem mem_removeFd {l : List (Nat × Nat)} {d : Nat} {p : Nat × Nat} :
    p ∈ removeFd l d ↔ p ∈ l ∧ p.1 ≠ d := by
  simp [removeFd]

theorem mem_keys_removeFd {l : List (Nat × Nat)} {d k : Nat} :
    k ∈ keys (removeFd l d) ↔ k ∈ keys l ∧ k ≠ d := by
  simp only [keys, List.mem_map, mem_removeFd]
  constructor
  · rintro ⟨p, ⟨hp, hne⟩, rfl⟩; exact ⟨⟨p, hp, rfl⟩, hne⟩
  · rintro ⟨⟨p, hp, rfl⟩, hne⟩; exact ⟨p, ⟨hp, hne⟩, rfl⟩

theorem nodup_keys_removeFd {l : List (Nat × Nat)} {d : Nat} (h : (keys l).Nodup) :
    (keys (removeFd l d)).Nodup :=
  h.sublist (List.filter_sublist.map _)

theorem fresh_of_bound {l : List (Nat × Nat)} {n : Nat} (h : ∀ d, d ∈ keys l → d < n) : n ∉ keys l :=
  fun hm => Nat.lt_irrefl _ (h _ hm)

theorem bound_install {l : List (Nat × Nat)} {n : Nat} (f : Nat) (h : ∀ d, d ∈ keys l → d < n) :
    ∀ d, d ∈ keys (l ++ [(n, f)]) → d < n + 1 :=
  fun d hd => (mem_keys_concat.1 hd).elim (fun x => Nat.lt_succ_of_lt (h d x)) (· ▸ Nat.lt_succ_self n)

theorem hcount_append (hs : List (Option Nat)) (o : Option Nat) (c : Nat) :
    hcount (hs ++ [o]) c = hcount hs c + (if o = some c then 1 else 0) :=
  sum_map_append _ hs [o]

theorem hcount_set {hs : List (Option Nat)} {h : Nat} {o o' : Option Nat} (c : Nat)
    (hh : hs[h]? = some o) :
    hcount (hs.set h o') c + (if o = some c then 1 else 0)
      = hcount hs c + (if o' = some c then 1 else 0) :=
  sum_map_set (fun o => if o = some c then 1 else 0) hs h o o' hh

theorem bcount_append (bs : List Body) (b : Body) (c : Nat) :
    bcount (bs ++ [b]) c = bcount bs c + b.fds.count c :=
  sum_map_append _ bs [b]

theorem bcount_set {bs : List Body} {b : Nat} {bd bd' : Body} (c : Nat) (hb : bs[b]? = some bd) :
    bcount (bs.set b bd') c + bd.fds.count c = bcount bs c + bd'.fds.count c :=
  sum_map_set (fun b => b.fds.count c) bs b bd bd' hb

theorem refCount_pos_of_handle {s : State} {h c : Nat} (hh : s.handles[h]? = some (some c)) :
    0 < refCount s c :=
  Nat.add_pos_left (List.sum_pos_iff_exists_pos_nat.2
    ⟨1, List.mem_map.2 ⟨_, List.mem_of_getElem? hh, if_pos rfl⟩, Nat.one_pos⟩) _

theorem refCount_pos_of_entry {s : State} {b c : Nat} {bd : Body} (hb : s.bodies[b]? = some bd)
    (hc : c ∈ bd.fds) : 0 < refCount s c :=
  Nat.add_pos_right _ (List.sum_pos_iff_exists_pos_nat.2
    ⟨_, List.mem_map.2 ⟨bd, List.mem_of_getElem? hb, rfl⟩, List.count_pos_iff.2 hc⟩)

theorem refCount_zero_of_allDropped {s : State} (h : AllDropped s) (c : Nat) : refCount s c = 0 := by
  simp only [refCount, hcount, bcount, Nat.add_eq_zero_iff, List.sum_eq_zero_iff_forall_eq_nat, List.mem_map]
  constructor
  · rintro _ ⟨o, ho, rfl⟩; rw [h.1 o ho]; rfl
  · rintro _ ⟨b, hb, rfl⟩; rw [h.2 b hb]; rfl

theorem owns_iff_of_cell {s : State} {c : Nat} {x : Cell} (hx : s.cells[c]? = some x) {d : Nat} :
    Owns s c d ↔ 0 < x.refs ∧ x.taken = false ∧ x.fd = d := by
  simp [Owns, hx]

/-- `Owns` reads the cells only: stated for any `s'` with these cells, whatever else a micro-step changes -/
theorem owns_set_cell {s s' : State} {c : Nat} {x y : Cell} (hx : s.cells[c]? = some x)
    (hc : s'.cells = s.cells.set c y) {c' d : Nat} :
    Owns s' c' d ↔ if c' = c then 0 < y.refs ∧ y.taken = false ∧ y.fd = d else Owns s c' d := by
  simp only [Owns, hc, getElem?_set_of_some y c' hx]
  split <;> simp

theorem owns_append_cell {s s' : State} {d : Nat} (hc : s'.cells = s.cells ++ [⟨d, false, 1⟩]) {c k : Nat} :
    Owns s' c k ↔ Owns s c k ∨ (c = s.cells.length ∧ d = k) := by
  simp only [Owns, hc, getElem?_concat, or_and_right, exists_or]
  exact or_congr Iff.rfl
    ⟨fun ⟨_, ⟨e, rfl⟩, _, _, h⟩ => ⟨e, h⟩, fun ⟨e, h⟩ => ⟨_, ⟨e, rfl⟩, Nat.one_pos, rfl, h⟩⟩

/-- The invariant, for a state in the middle of an operation that itself holds the references `p`
    (local variables: the `UnixFd`s just created, the vector cut off by `truncate`, `fds_in`, …). -/
structure InvP (p : List Nat) (s : State) : Prop where
  noErr : s.err = false
  cnt : ∀ (c : Nat) (x : Cell), s.cells[c]? = some x → x.refs = refCount s c + p.count c
  /-- no reference points to a cell that does not exist -/
  valid : ∀ c, s.cells.length ≤ c → refCount s c + p.count c = 0
  nodup : (keys s.open).Nodup
  bound : ∀ d, d ∈ keys s.open → d < s.nextFd
  cellBound : ∀ (c : Nat) (x : Cell), s.cells[c]? = some x → x.fd < s.nextFd
  userOpen : ∀ d, d ∈ s.user → d ∈ keys s.open
  ownOpen : ∀ c d, Owns s c d → d ∈ keys s.open ∧ d ∉ s.user
  ownInj : ∀ c c' d, Owns s c d → Owns s c' d → c = c'
  noLeak : ∀ d, d ∈ keys s.open → d ∈ s.user ∨ ∃ c, Owns s c d
  closedNodup : s.libClosed.Nodup
  closedNotOpen : ∀ d, d ∈ s.libClosed → d ∉ keys s.open
  closedBound : ∀ d, d ∈ s.libClosed → d < s.nextFd
  /-- what `take_raw_fd` handed out is out of the library's hands: not closed by it, owned by no cell, and
      where it is still open the caller owns it -/
  takenOk : ∀ d, d ∈ s.takenFds →
    d ∉ s.libClosed ∧ (d ∈ keys s.open → d ∈ s.user) ∧ (∀ c, ¬ Owns s c d) ∧ d < s.nextFd
  /-- a descriptor the library created becomes the caller's only through `take_raw_fd` -/
  libUser : ∀ d, d ∈ s.lib → d ∈ s.user → d ∈ s.takenFds
  /-- one that is no longer open was closed by the library, or taken (and closed by the caller) -/
  libClosedOr : ∀ d, d ∈ s.lib → d ∉ keys s.open → d ∈ s.libClosed ∨ d ∈ s.takenFds
  libBound : ∀ d, d ∈ s.lib → d < s.nextFd

/-- the invariant between operations. `refCount s c + [].count c` reduces to `refCount s c`, so for an `Inv` the
    field `cnt` is `x.refs = refCount s c` by `rfl` and is used as such. -/
abbrev Inv (s : State) : Prop := InvP [] s

theorem inv_init : Inv State.init := by
  constructor <;> simp [State.init, keys, refCount, hcount, bcount, Owns]

theorem InvP.cell_of_pending {p : List Nat} {s : State} {c : Nat} (h : InvP p s)
    (hp : 0 < refCount s c + p.count c) : ∃ x, s.cells[c]? = some x ∧ x.refs = refCount s c + p.count c :=
  have hlt : c < s.cells.length := Nat.lt_of_not_le fun hc => Nat.ne_of_gt hp (h.valid c hc)
  ⟨s.cells[c], List.getElem?_eq_getElem hlt, h.cnt c _ (List.getElem?_eq_getElem hlt)⟩

theorem live_cell {s : State} (h : Inv s) {c : Nat} (hp : 0 < refCount s c) :
    ∃ x, s.cells[c]? = some x ∧ 0 < x.refs ∧
      (x.taken = false → x.fd ∈ keys s.open ∧ x.fd ∉ s.libClosed ∧ x.fd ∉ s.user) := by
  obtain ⟨x, hx, hr⟩ := h.cell_of_pending (Nat.add_pos_left hp _)
  have hr' : x.refs = refCount s c := hr
  refine ⟨x, hx, hr' ▸ hp, fun htk => ?_⟩
  have ho := h.ownOpen c _ ⟨x, hx, hr' ▸ hp, htk, rfl⟩
  exact ⟨ho.1, fun hcl => h.closedNotOpen _ hcl ho.1, ho.2⟩

theorem refCount_pos_of_owns {s : State} (h : Inv s) {c d : Nat} (ho : Owns s c d) : 0 < refCount s c := by
  obtain ⟨x, hx, hr, _⟩ := ho
  have hc : x.refs = refCount s c := h.cnt c x hx
  exact hc ▸ hr

theorem lib_states {s : State} (h : Inv s) {d : Nat} (hd : d ∈ s.lib) :
    (OwnedLive s d ∧ ¬ TakenOut s d ∧ ¬ ClosedOnce s d) ∨
    (¬ OwnedLive s d ∧ TakenOut s d ∧ ¬ ClosedOnce s d) ∨
    (¬ OwnedLive s d ∧ ¬ TakenOut s d ∧ ClosedOnce s d) := by
  by_cases ht : d ∈ s.takenFds
  · obtain ⟨h1, h2, h3, _⟩ := h.takenOk d ht
    exact Or.inr (Or.inl ⟨fun ho => ho.2.2.1 ht,
      ⟨ht, h1, ⟨h2, h.userOpen d⟩, fun ⟨c, hc⟩ => h3 c hc⟩,
      fun hc => hc.2.1 ht⟩)
  · by_cases ho : d ∈ keys s.open
    · have hnu : d ∉ s.user := fun hu => ht (h.libUser d hd hu)
      rcases h.noLeak d ho with hu | ⟨c, hc⟩
      · exact absurd hu hnu
      · have hcl : d ∉ s.libClosed := fun hcl => h.closedNotOpen d hcl ho
        exact Or.inl ⟨⟨ho, hnu, ht, hcl, c, hc, refCount_pos_of_owns h hc⟩,
          fun hh => ht hh.1,
          fun hh => hh.1 ho⟩
    · have hcl : d ∈ s.libClosed := (h.libClosedOr d hd ho).resolve_right ht
      have hno : ¬ ∃ c, Owns s c d := fun ⟨c, hc⟩ => ho (h.ownOpen c d hc).1
      have hnu : d ∉ s.user := fun hu => ho (h.userOpen d hu)
      refine Or.inr (Or.inr ⟨fun hh => ho hh.1,
        fun hh => ht hh.1,
        ho, ht, ?_, hnu, hno⟩)
      rw [h.closedNodup.count, if_pos hcl]

theorem leak_free_of_inv {s : State} (h : Inv s) (hd : AllDropped s) :
    ∀ d, d ∈ keys s.open ↔ d ∈ s.user := by
  refine fun d => ⟨fun ho => (h.noLeak d ho).resolve_right fun ⟨c, hc⟩ => ?_, h.userOpen d⟩
  exact Nat.ne_of_gt (refCount_pos_of_owns h hc) (refCount_zero_of_allDropped hd c)

/-- only the holders (and fields the invariant does not mention) change, and every reference that
    left a holder is now held by the operation (or the other way round) -/
theorem InvP.frame {p p' : List Nat} {s : State} (h : InvP p s) {hs : List (Option Nat)} {bs : List Body}
    {w : List Flight} {r : List Nat} {e q : List (List Nat)}
    (hcnt : ∀ c, hcount hs c + bcount bs c + p'.count c = refCount s c + p.count c) :
    InvP p' { s with handles := hs, bodies := bs, wire := w, raws := r, enq := e, deq := q } :=
  { h with
    cnt := fun c x hx => (h.cnt c x hx).trans (hcnt c).symm
    valid := fun c hc => (hcnt c).trans (h.valid c hc) }

/-- the fields `cnt`, `valid`, `cellBound` when one cell is replaced -/
theorem InvP.cellFields_set {p p' : List Nat} {s : State} {c : Nat} {x y : Cell} (h : InvP p s)
    (hx : s.cells[c]? = some x) (hfd : y.fd = x.fd) (hc : y.refs = refCount s c + p'.count c)
    (hp : ∀ c', c' ≠ c → p'.count c' = p.count c') :
    (∀ (c' : Nat) (x' : Cell), (s.cells.set c y)[c']? = some x' → x'.refs = refCount s c' + p'.count c') ∧
    (∀ c', (s.cells.set c y).length ≤ c' → refCount s c' + p'.count c' = 0) ∧
    (∀ (c' : Nat) (x' : Cell), (s.cells.set c y)[c']? = some x' → x'.fd < s.nextFd) := by
  have key (c' : Nat) (x' : Cell) (hx' : (s.cells.set c y)[c']? = some x') :
      x'.refs = refCount s c' + p'.count c' ∧ x'.fd < s.nextFd := by
    rw [getElem?_set_of_some y c' hx] at hx'
    split at hx'
    · next e => cases hx'; exact ⟨e ▸ hc, hfd ▸ h.cellBound c x hx⟩
    · next e => exact ⟨hp c' e ▸ h.cnt c' x' hx', h.cellBound c' x' hx'⟩
  refine ⟨fun c' x' hx' => (key c' x' hx').1, fun c' hc' => ?_, fun c' x' hx' => (key c' x' hx').2⟩
  rw [List.length_set] at hc'
  rw [hp c' (Nat.ne_of_gt (Nat.lt_of_lt_of_le (lt_length_of_getElem? hx) hc'))]
  exact h.valid c' hc'

theorem InvP.setCell {p p' : List Nat} {s : State} {c : Nat} {x y : Cell} (h : InvP p s)
    (hx : s.cells[c]? = some x) (hfd : y.fd = x.fd)
    (hown : (0 < y.refs ∧ y.taken = false) ↔ (0 < x.refs ∧ x.taken = false))
    (hc : y.refs = refCount s c + p'.count c) (hp : ∀ c', c' ≠ c → p'.count c' = p.count c') :
    InvP p' { s with cells := s.cells.set c y } := by
  obtain ⟨k1, k2, k3⟩ := h.cellFields_set hx hfd hc hp
  have ho {c' d : Nat} : Owns { s with cells := s.cells.set c y } c' d ↔ Owns s c' d := by
    rw [owns_set_cell hx rfl]
    split
    · next e => rw [e, owns_iff_of_cell hx, ← and_assoc, ← and_assoc, hown, hfd]
    · rfl
  exact { h with
    cnt := k1, valid := k2, cellBound := k3
    ownOpen := fun c' d hd => h.ownOpen c' d (ho.1 hd)
    ownInj := fun c1 c2 d h1 h2 => h.ownInj c1 c2 d (ho.1 h1) (ho.1 h2)
    noLeak := fun d hd => (h.noLeak d hd).imp id (fun ⟨c', h1⟩ => ⟨c', ho.2 h1⟩)
    takenOk := fun d hd => ⟨(h.takenOk d hd).1, (h.takenOk d hd).2.1,
      fun c' hc' => (h.takenOk d hd).2.2.1 c' (ho.1 hc'), (h.takenOk d hd).2.2.2⟩ }

theorem InvP.incr {p : List Nat} {s : State} {c : Nat} (h : InvP p s) (hp : 0 < refCount s c) :
    InvP (c :: p) (incr s c) := by
  obtain ⟨x, hx, hr⟩ := h.cell_of_pending (Nat.add_pos_left hp _)
  have hpos : 0 < x.refs := hr ▸ Nat.add_pos_left hp _
  simp only [FdTable.incr, hx, Nat.ne_of_gt hpos, if_false]
  refine h.setCell hx rfl (and_congr_left' (iff_of_true (Nat.succ_pos _) hpos)) ?_
    (fun c' hc' => List.count_cons_of_ne hc'.symm)
  rw [List.count_cons_self]
  exact congrArg (· + 1) hr

theorem InvP.owns_set_dead {p : List Nat} {s s' : State} {c : Nat} {x y : Cell} (h : InvP p s)
    (hx : s.cells[c]? = some x) (hr : 0 < x.refs) (htk : x.taken = false)
    (hc : s'.cells = s.cells.set c y) (hy : ¬ (0 < y.refs ∧ y.taken = false)) {c' d : Nat} :
    Owns s' c' d ↔ Owns s c' d ∧ d ≠ x.fd := by
  rw [owns_set_cell hx hc]
  split
  · next e =>
    exact ⟨fun h1 => absurd ⟨h1.1, h1.2.1⟩ hy,
      fun ⟨h1, e'⟩ => absurd ((owns_iff_of_cell hx).1 (e ▸ h1)).2.2.symm e'⟩
  · next e => exact ⟨fun h1 => ⟨h1, fun e' => e (h.ownInj c' c _ (e' ▸ h1) ⟨x, hx, hr, htk, rfl⟩)⟩, And.left⟩

/-- the last `UnixFd` on a cell that still has its descriptor is dropped: `Drop for UnixFdInner` closes it -/
theorem InvP.closeLast {p p' : List Nat} {s : State} {c : Nat} {x : Cell} (h : InvP p s)
    (hx : s.cells[c]? = some x) (hr : 0 < x.refs) (htk : x.taken = false)
    (hc : 0 = refCount s c + p'.count c) (hp : ∀ c', c' ≠ c → p'.count c' = p.count c') :
    InvP p' { s with cells := s.cells.set c { x with refs := 0 }, «open» := removeFd s.open x.fd,
                     libClosed := s.libClosed ++ [x.fd] } := by
  obtain ⟨k1, k2, k3⟩ := h.cellFields_set (y := { x with refs := 0 }) hx rfl hc hp
  have hD : Owns s c x.fd := ⟨x, hx, hr, htk, rfl⟩
  have ⟨hopen, hnu⟩ := h.ownOpen c _ hD
  have ho {s' : State} {c' d : Nat} (hc : s'.cells = s.cells.set c { x with refs := 0 }) :
      Owns s' c' d ↔ Owns s c' d ∧ d ≠ x.fd :=
    h.owns_set_dead hx hr htk hc (fun hh => Nat.lt_irrefl 0 hh.1)
  exact { h with
    cnt := k1, valid := k2, cellBound := k3
    nodup := nodup_keys_removeFd h.nodup
    bound := fun d hd => h.bound d (mem_keys_removeFd.1 hd).1
    userOpen := fun d hd => mem_keys_removeFd.2 ⟨h.userOpen d hd, fun e => hnu (e ▸ hd)⟩
    ownOpen := fun c' d hd =>
      have := (ho rfl).1 hd
      ⟨mem_keys_removeFd.2 ⟨(h.ownOpen c' d this.1).1, this.2⟩, (h.ownOpen c' d this.1).2⟩
    ownInj := fun c1 c2 d h1 h2 => h.ownInj c1 c2 d ((ho rfl).1 h1).1 ((ho rfl).1 h2).1
    noLeak := fun d hd =>
      have := mem_keys_removeFd.1 hd
      (h.noLeak d this.1).imp id (fun ⟨c', h1⟩ => ⟨c', (ho rfl).2 ⟨h1, this.2⟩⟩)
    closedNodup := nodup_concat h.closedNodup fun hm => h.closedNotOpen _ hm hopen
    closedNotOpen := fun d hd hh =>
      have := mem_keys_removeFd.1 hh
      (mem_concat.1 hd).elim (fun x => h.closedNotOpen d x this.1) this.2
    closedBound := fun d hd => (mem_concat.1 hd).elim (h.closedBound d) (· ▸ h.bound x.fd hopen)
    takenOk := fun d hd =>
      have ⟨h1, h2, h3, h4⟩ := h.takenOk d hd
      ⟨fun hh => (mem_concat.1 hh).elim h1 (fun e => h3 c (e ▸ hD)),
        fun hh => h2 (mem_keys_removeFd.1 hh).1,
        fun c' hc' => h3 c' ((ho rfl).1 hc').1,
        h4⟩
    libClosedOr := fun d hd ho' => by
      by_cases e : d = x.fd
      · exact Or.inl (mem_concat.2 (Or.inr e))
      · exact (h.libClosedOr d hd (fun hh => ho' (mem_keys_removeFd.2 ⟨hh, e⟩))).imp
          (fun x => mem_concat.2 (Or.inl x)) id }

theorem InvP.decr {p : List Nat} {s : State} {c : Nat} (h : InvP (c :: p) s) : InvP p (decr s c) := by
  obtain ⟨x, hx, hr⟩ := h.cell_of_pending (Nat.add_pos_right _ (List.count_pos_iff.2 List.mem_cons_self))
  rw [List.count_cons_self] at hr
  have hpos : 0 < x.refs := hr ▸ Nat.succ_pos _
  have hp' : ∀ c', c' ≠ c → p.count c' = (c :: p).count c' := fun c' hc' => (List.count_cons_of_ne hc'.symm).symm
  simp only [FdTable.decr, hx, Nat.ne_of_gt hpos, if_false]
  by_cases h1 : x.refs = 1
  · have h0 : 0 = refCount s c + p.count c := (Nat.succ.inj (hr.symm.trans h1)).symm
    simp only [h1, if_true]
    by_cases htk : x.taken = true
    · simp only [htk, if_true]
      exact h.setCell hx rfl (by simp [htk]) h0 hp'
    · have htk' : x.taken = false := by simpa using htk
      obtain ⟨f, hf⟩ := lookup_of_mem_keys (h.ownOpen c _ ⟨x, hx, hpos, htk', rfl⟩).1
      rw [if_neg htk]
      simp only [libClose, hf]
      exact h.closeLast hx hpos htk' h0 hp'
  · simp only [h1, if_false]
    exact h.setCell hx rfl
      (and_congr_left' (iff_of_true (Nat.sub_pos_of_lt (Nat.lt_of_le_of_ne hpos (Ne.symm h1))) hpos))
      (congrArg (· - 1) hr) hp'

theorem InvP.dropRefs {p : List Nat} : ∀ (l : List Nat) {s : State}, InvP (l ++ p) s → InvP p (dropRefs s l)
  | [], _, h => h
  | c :: cs, _, h => InvP.dropRefs cs (InvP.decr (by simpa using h))

/-- `take_raw_fd` on a cell that still has its descriptor -/
theorem InvP.takeCell {p : List Nat} {s : State} {c : Nat} {x : Cell} (h : InvP p s)
    (hx : s.cells[c]? = some x) (hr : 0 < x.refs) (htk : x.taken = false) :
    InvP p { s with cells := s.cells.set c { x with taken := true }, user := s.user ++ [x.fd],
                    takenFds := s.takenFds ++ [x.fd] } := by
  obtain ⟨k1, k2, k3⟩ := h.cellFields_set (y := { x with taken := true }) hx rfl (h.cnt c x hx) (fun _ _ => rfl)
  have hopen := (h.ownOpen c _ ⟨x, hx, hr, htk, rfl⟩).1
  have ho {s' : State} {c' d : Nat} (hc : s'.cells = s.cells.set c { x with taken := true }) :
      Owns s' c' d ↔ Owns s c' d ∧ d ≠ x.fd :=
    h.owns_set_dead hx hr htk hc (fun hh => Bool.noConfusion hh.2)
  exact { h with
    cnt := k1, valid := k2, cellBound := k3
    userOpen := fun d hd => (mem_concat.1 hd).elim (h.userOpen d) (· ▸ hopen)
    ownOpen := fun c' d hd =>
      have := (ho rfl).1 hd
      ⟨(h.ownOpen c' d this.1).1, fun hh => (mem_concat.1 hh).elim (h.ownOpen c' d this.1).2 this.2⟩
    ownInj := fun c1 c2 d h1 h2 => h.ownInj c1 c2 d ((ho rfl).1 h1).1 ((ho rfl).1 h2).1
    noLeak := fun d hd => by
      by_cases e : d = x.fd
      · exact Or.inl (mem_concat.2 (Or.inr e))
      · exact (h.noLeak d hd).imp (fun h1 => mem_concat.2 (Or.inl h1)) (fun ⟨c', h1⟩ => ⟨c', (ho rfl).2 ⟨h1, e⟩⟩)
    takenOk := fun d hd => by
      rcases mem_concat.1 hd with hd | e
      · obtain ⟨h1, h2, h3, h4⟩ := h.takenOk d hd
        exact ⟨h1,
          fun hh => mem_concat.2 (Or.inl (h2 hh)),
          fun c' hc' => h3 c' ((ho rfl).1 hc').1,
          h4⟩
      · exact ⟨fun hh => h.closedNotOpen d hh (e ▸ hopen),
          fun _ => mem_concat.2 (Or.inr e),
          fun c' hc' => ((ho rfl).1 hc').2 e,
          e.symm ▸ h.bound _ hopen⟩
    libUser := fun d hd hu' => mem_concat.2 ((mem_concat.1 hu').imp (h.libUser d hd) id)
    libClosedOr := fun d hd ho' => (h.libClosedOr d hd ho').imp id (fun x => mem_concat.2 (Or.inl x)) }

theorem InvP.openByUser {p : List Nat} {s : State} (h : InvP p s) (f : Nat) :
    InvP p { s with «open» := s.open ++ [(s.nextFd, f)], nextFd := s.nextFd + 1,
                    user := s.user ++ [s.nextFd] } := by
  have hfresh := fresh_of_bound h.bound
  have lt : ∀ {d}, d < s.nextFd → d < s.nextFd + 1 := Nat.lt_succ_of_lt
  exact { h with
    nodup := keys_append s.open _ ▸ nodup_concat h.nodup hfresh
    bound := bound_install f h.bound
    cellBound := fun c x hx => lt (h.cellBound c x hx)
    userOpen := fun d hd => mem_keys_concat.2 ((mem_concat.1 hd).imp (h.userOpen d) id)
    ownOpen := fun c d hd =>
      have := h.ownOpen c d hd
      ⟨mem_keys_concat.2 (Or.inl this.1),
        fun hu' => (mem_concat.1 hu').elim this.2 (fun e => hfresh (e ▸ this.1))⟩
    noLeak := fun d hd => (mem_keys_concat.1 hd).elim
      (fun x => (h.noLeak d x).imp (fun h1 => mem_concat.2 (Or.inl h1)) id)
      (fun e => Or.inl (mem_concat.2 (Or.inr e)))
    closedNotOpen := fun d hd hd' => (mem_keys_concat.1 hd').elim (h.closedNotOpen d hd)
      (fun e => Nat.lt_irrefl _ (e ▸ h.closedBound d hd))
    closedBound := fun d hd => lt (h.closedBound d hd)
    takenOk := fun d hd =>
      have ⟨h1, h2, h3, h4⟩ := h.takenOk d hd
      ⟨h1, fun ho' => mem_concat.2 ((mem_keys_concat.1 ho').imp h2 id), h3, lt h4⟩
    libUser := fun d hd hu' => (mem_concat.1 hu').elim (h.libUser d hd)
      (fun e => absurd (e ▸ h.libBound d hd) (Nat.lt_irrefl _))
    libClosedOr := fun d hd ho' => h.libClosedOr d hd (fun x => ho' (mem_keys_concat.2 (Or.inl x)))
    libBound := fun d hd => lt (h.libBound d hd) }

theorem InvP.closeByUser {p : List Nat} {s : State} (h : InvP p s) {d : Nat} (hd : d ∈ s.user) :
    InvP p { s with «open» := removeFd s.open d, user := s.user.filter (· != d) } :=
  { h with
    nodup := nodup_keys_removeFd h.nodup
    bound := fun k hk => h.bound k (mem_keys_removeFd.1 hk).1
    userOpen := fun k hk => mem_keys_removeFd.2 ((mem_filter_ne.1 hk).imp_left (h.userOpen k))
    ownOpen := fun c k hk =>
      have := h.ownOpen c k hk
      ⟨mem_keys_removeFd.2 ⟨this.1, fun e => this.2 (e ▸ hd)⟩, fun hh => this.2 (mem_filter_ne.1 hh).1⟩
    noLeak := fun k hk =>
      have := mem_keys_removeFd.1 hk
      (h.noLeak k this.1).imp (fun h1 => mem_filter_ne.2 ⟨h1, this.2⟩) id
    closedNotOpen := fun k hk hh => h.closedNotOpen k hk (mem_keys_removeFd.1 hh).1
    takenOk := fun k hk =>
      have ⟨h1, h2, h3, h4⟩ := h.takenOk k hk
      ⟨h1, fun hh => mem_filter_ne.2 ((mem_keys_removeFd.1 hh).imp_left h2), h3, h4⟩
    libUser := fun k hk hu' => h.libUser k hk (mem_filter_ne.1 hu').1
    libClosedOr := fun k hk ho' => by
      by_cases e : k = d
      · exact Or.inr (h.libUser k hk (e ▸ hd))
      · exact h.libClosedOr k hk (fun x => ho' (mem_keys_removeFd.2 ⟨x, e⟩)) }

theorem InvP.wrapByUser {p : List Nat} {s : State} (h : InvP p s) {d : Nat} (hd : d ∈ s.user) :
    InvP (s.cells.length :: p) { s with cells := s.cells ++ [⟨d, false, 1⟩], user := s.user.filter (· != d),
                                        takenFds := s.takenFds.filter (· != d) } := by
  have hdopen := h.userOpen d hd
  have hnoown : ∀ c, ¬ Owns s c d := fun c hc' => (h.ownOpen c d hc').2 hd
  have hown {s' : State} {c k : Nat} := owns_append_cell (s := s) (s' := s') (d := d) (c := c) (k := k)
  exact { h with
    cnt := fun c x hx => by
      rcases getElem?_concat.1 hx with hx | ⟨rfl, rfl⟩
      · rw [List.count_cons_of_ne (Nat.ne_of_gt (lt_length_of_getElem? hx))]; exact h.cnt c x hx
      · have := h.valid s.cells.length (Nat.le_refl _)
        rw [List.count_cons_self]
        show 1 = refCount s _ + _
        omega
    valid := fun c hc => by
      rw [List.length_append, List.length_singleton] at hc
      rw [List.count_cons_of_ne (by omega)]
      exact h.valid c (by omega)
    cellBound := fun c x hx => by
      rcases getElem?_concat.1 hx with hx | ⟨_, rfl⟩
      · exact h.cellBound c x hx
      · exact h.bound _ hdopen
    userOpen := fun k hk => h.userOpen k (mem_filter_ne.1 hk).1
    ownOpen := fun c k hk => by
      rcases (hown rfl).1 hk with hk | ⟨_, rfl⟩
      · exact ⟨(h.ownOpen c k hk).1, fun hh => (h.ownOpen c k hk).2 (mem_filter_ne.1 hh).1⟩
      · exact ⟨hdopen, fun hh => (mem_filter_ne.1 hh).2 rfl⟩
    ownInj := fun c c' k h1 h2 => by
      rcases (hown rfl).1 h1 with h1 | ⟨e1, rfl⟩ <;> rcases (hown rfl).1 h2 with h2 | ⟨e2, e⟩
      · exact h.ownInj c c' k h1 h2
      · exact absurd (e ▸ h1) (hnoown c)
      · exact absurd h2 (hnoown c')
      · exact e1.trans e2.symm
    noLeak := fun k hk => by
      by_cases e : k = d
      · exact Or.inr ⟨_, (hown rfl).2 (Or.inr ⟨rfl, e.symm⟩)⟩
      · exact (h.noLeak k hk).imp (fun h1 => mem_filter_ne.2 ⟨h1, e⟩) (fun ⟨c, h1⟩ => ⟨c, (hown rfl).2 (Or.inl h1)⟩)
    takenOk := fun k hk =>
      have hk' := mem_filter_ne.1 hk
      have ⟨h1, h2, h3, h4⟩ := h.takenOk k hk'.1
      ⟨h1, fun hh => mem_filter_ne.2 ⟨h2 hh, hk'.2⟩,
        fun c hc' => ((hown rfl).1 hc').elim (h3 c) (fun e => hk'.2 e.2.symm), h4⟩
    libUser := fun k hk hu' => mem_filter_ne.2 ((mem_filter_ne.1 hu').imp_left (h.libUser k hk))
    libClosedOr := fun k hk ho' =>
      (h.libClosedOr k hk ho').imp id (fun h1 => mem_filter_ne.2 ⟨h1, fun e => ho' (e ▸ hdopen)⟩) }

theorem InvP.labelLib {p : List Nat} {s : State} (h : InvP p s) {d : Nat} (ho : d ∈ keys s.open)
    (hu : d ∉ s.user) : InvP p { s with lib := s.lib ++ [d] } :=
  { h with
    libUser := fun k hk hu' => (mem_concat.1 hk).elim (fun x => h.libUser k x hu') (fun e => absurd (e ▸ hu') hu)
    libClosedOr := fun k hk ho' =>
      (mem_concat.1 hk).elim (fun x => h.libClosedOr k x ho') (fun e => absurd (e ▸ ho) ho')
    libBound := fun k hk => (mem_concat.1 hk).elim (h.libBound k) (· ▸ h.bound d ho) }

/-- as if the caller had opened and wrapped the descriptor, and it is then recorded as the library's -/
theorem InvP.createOwned {p : List Nat} {s : State} (h : InvP p s) (f : Nat) :
    InvP ((createOwned s f).2 :: p) (createOwned s f).1 := by
  have hu : s.nextFd ∉ s.user := fun x => Nat.lt_irrefl _ (h.bound _ (h.userOpen _ x))
  have ht : s.nextFd ∉ s.takenFds := fun x => Nat.lt_irrefl _ (h.takenOk _ x).2.2.2
  have h1 := (h.openByUser f).wrapByUser (d := s.nextFd) (by simp)
  have ne : ∀ {l : List Nat}, s.nextFd ∉ l → l.filter (· != s.nextFd) = l := fun hl =>
    List.filter_eq_self.2 fun a ha => bne_iff_ne.2 fun e => hl (e ▸ ha)
  have eu : (s.user ++ [s.nextFd]).filter (· != s.nextFd) = s.user := by simp [List.filter_append, ne hu]
  simp only [eu, ne ht] at h1
  exact h1.labelLib (by simp [keys]) hu

end Rustbus.FdTable
