import RustbusModel.Model.Names
/-!
The languages of names of the D-Bus specification (`Spec*`, over `Sep`; written from the specification, not from
the code) and, for C08, that each validator accepts exactly its language (`validate*_spec`; `validateErrorname` is
`validateInterface`), through `len_guard_iff` and `split_all_iff`.
-/
namespace Rustbus.Names

/-- `[A-Z][a-z][0-9]_` -/
def SpecNameChar (c : Char) : Prop :=
  ('A'.toNat ≤ c.toNat ∧ c.toNat ≤ 'Z'.toNat) ∨ ('a'.toNat ≤ c.toNat ∧ c.toNat ≤ 'z'.toNat) ∨
  ('0'.toNat ≤ c.toNat ∧ c.toNat ≤ '9'.toNat) ∨ c = '_'
def SpecBusChar (c : Char) : Prop := SpecNameChar c ∨ c = '-'
def SpecDigit (c : Char) : Prop := '0'.toNat ≤ c.toNat ∧ c.toNat ≤ '9'.toNat

/-- `s` consists of exactly `n` elements satisfying `ok`, separated by single `sep` characters. -/
inductive Sep (sep : Char) (ok : List Char → Prop) : List Char → Nat → Prop
  | single {e : List Char} : ok e → sep ∉ e → Sep sep ok e 1
  | cons {e rest : List Char} {n : Nat} : ok e → sep ∉ e → Sep sep ok rest n →
      Sep sep ok (e ++ sep :: rest) (n + 1)

/-- element of an interface / error / bus name; a leading digit only where `leadingDigitOk` (unique bus names) -/
def SpecElem (chr : Char → Prop) (leadingDigitOk : Bool) (e : List Char) : Prop :=
  e ≠ [] ∧ (∀ c ∈ e, chr c) ∧ (leadingDigitOk = false → ∀ c, e.head? = some c → ¬ SpecDigit c)

/-- interface names and error names -/
def SpecInterface (s : List Char) : Prop :=
  s.length ≤ 255 ∧ ∃ n, 2 ≤ n ∧ Sep '.' (SpecElem SpecNameChar false) s n

/-- unique (`:` prefix, digits may lead) or well-known -/
def SpecBusname (s : List Char) : Prop :=
  s.length ≤ 255 ∧
  ((∃ r n, s = ':' :: r ∧ 2 ≤ n ∧ Sep '.' (SpecElem SpecBusChar true) r n) ∨
   (s.head? ≠ some ':' ∧ ∃ n, 2 ≤ n ∧ Sep '.' (SpecElem SpecBusChar false) s n))

/-- no '.': implied by the character class -/
def SpecMember (s : List Char) : Prop :=
  s ≠ [] ∧ s.length ≤ 255 ∧ (∀ c ∈ s, SpecNameChar c) ∧ (∀ c, s.head? = some c → ¬ SpecDigit c)

def SpecObjectPath (s : List Char) : Prop :=
  s = ['/'] ∨ ∃ r n, s = '/' :: r ∧ 1 ≤ n ∧
    Sep '/' (fun e => e ≠ [] ∧ ∀ c ∈ e, SpecNameChar c) r n

theorem le_iff_toNat (a b : Char) : a ≤ b ↔ a.toNat ≤ b.toNat := by
  rw [Char.le_def]; exact UInt32.le_iff_toNat_le

theorem isDigit_iff (c : Char) : isDigit c = true ↔ SpecDigit c := by
  simp only [isDigit, SpecDigit, Bool.and_eq_true, decide_eq_true_eq, le_iff_toNat]

theorem clsName_iff (c : Char) : clsName c = true ↔ SpecNameChar c := by
  simp only [clsName, isAlnum, SpecNameChar, Bool.or_eq_true, Bool.and_eq_true, decide_eq_true_eq,
    le_iff_toNat, beq_iff_eq]
  rw [or_assoc, or_assoc, or_left_comm]

theorem clsBus_iff (c : Char) : clsBus c = true ↔ SpecBusChar c := by
  simp only [clsBus, SpecBusChar, Bool.or_eq_true, beq_iff_eq, ← clsName_iff, clsName]

/-- 7-bit and not NUL: all that the length rule (bytes = characters) and the string rule of the wire format
    need to know of the character classes -/
def Ascii (c : Char) : Prop := 0 < c.toNat ∧ c.toNat < 128

theorem SpecBusChar.ascii {c : Char} (h : SpecBusChar c) : Ascii c := by
  simp only [SpecBusChar, SpecNameChar, Char.reduceToNat, ← Char.toNat_inj] at h
  unfold Ascii
  omega

theorem SpecNameChar.ascii {c : Char} (h : SpecNameChar c) : Ascii c := SpecBusChar.ascii (.inl h)

theorem Ascii.utf8Size {c : Char} (h : Ascii c) : c.utf8Size = 1 :=
  if_pos (UInt32.le_iff_toNat_le.mpr (Nat.le_of_lt_succ (show c.val.toNat < 128 from h.2)))

theorem utf8Len_cons (c : Char) (s : List Char) : utf8Len (c :: s) = c.utf8Size + utf8Len s := rfl

theorem utf8Len_eq_length {s : List Char} (h : ∀ c ∈ s, Ascii c) : utf8Len s = s.length := by
  induction s with
  | nil => rfl
  | cons c cs ih =>
    rw [utf8Len_cons, (h c List.mem_cons_self).utf8Size, ih fun x hx => h x (List.mem_cons_of_mem c hx),
      List.length_cons, Nat.add_comm]

theorem length_le_utf8Len (s : List Char) : s.length ≤ utf8Len s := by
  induction s with
  | nil => exact Nat.le_refl 0
  | cons c cs ih =>
    rw [utf8Len_cons, List.length_cons, Nat.add_comm]
    exact Nat.add_le_add c.utf8Size_pos ih

/-- The validators bound the UTF-8 byte length, the specification the number of characters: the same thing for
    a language `L` of ASCII strings, and a longer non-ASCII string is outside `L` anyway. -/
theorem len_guard_iff (s : List Char) {body : Bool} {L : Prop} (hb : body = true ↔ L)
    (ha : s.length ≤ 255 ∧ L → ∀ c ∈ s, Ascii c) :
    (if utf8Len s > 255 then false else body) = true ↔ s.length ≤ 255 ∧ L := by
  have hge := length_le_utf8Len s
  split
  · simp only [Bool.false_eq_true, false_iff, not_and]
    intro hl hL
    have := utf8Len_eq_length (ha ⟨hl, hL⟩)
    omega
  · rw [hb]
    exact ⟨fun h => ⟨by omega, h⟩, And.right⟩

theorem splitOn_ne_nil (sep : Char) (s : List Char) : splitOn sep s ≠ [] := by
  cases s with
  | nil => simp [splitOn]
  | cons c cs =>
    unfold splitOn
    split
    · simp
    · split <;> simp

theorem splitOn_no_sep {sep : Char} {e : List Char} (h : sep ∉ e) : splitOn sep e = [e] := by
  induction e with
  | nil => rfl
  | cons c cs ih =>
    rw [List.mem_cons, not_or] at h
    rw [splitOn, if_neg (Ne.symm h.1), ih h.2]

theorem splitOn_append {sep : Char} {e rest : List Char} (h : sep ∉ e) :
    splitOn sep (e ++ sep :: rest) = e :: splitOn sep rest := by
  induction e with
  | nil => rw [List.nil_append, splitOn, if_pos rfl]
  | cons c cs ih =>
    rw [List.mem_cons, not_or] at h
    rw [List.cons_append, splitOn, if_neg (Ne.symm h.1), ih h.2]

theorem sep_iff_split (sep : Char) (ok : List Char → Prop) (s : List Char) (n : Nat) :
    Sep sep ok s n ↔ (splitOn sep s).length = n ∧ ∀ e ∈ splitOn sep s, ok e := by
  constructor
  · intro h
    induction h with
    | single hok hs => rw [splitOn_no_sep hs]; exact ⟨rfl, List.forall_mem_singleton.mpr hok⟩
    | cons hok hs _ ih =>
      rw [splitOn_append hs, List.length_cons, ih.1]
      exact ⟨rfl, List.forall_mem_cons.mpr ⟨hok, ih.2⟩⟩
  · induction n generalizing s with
    | zero => exact fun h => absurd (List.length_eq_zero_iff.mp h.1) (splitOn_ne_nil sep s)
    | succ m ih =>
      by_cases hs : sep ∈ s
      · obtain ⟨e, rest, rfl, he⟩ := List.eq_append_cons_of_mem hs
        rw [splitOn_append he, List.length_cons, List.forall_mem_cons]
        exact fun ⟨hl, hok, hall⟩ => .cons hok he (ih rest ⟨Nat.succ.inj hl, hall⟩)
      · rw [splitOn_no_sep hs]
        intro ⟨hl, hall⟩
        cases Nat.succ.inj hl
        exact .single (hall s (List.mem_singleton.mpr rfl)) hs

theorem all_iff {α} {p : α → Bool} {P : α → Prop} (hp : ∀ a, p a = true ↔ P a) (l : List α) :
    l.all p = true ↔ ∀ a ∈ l, P a := by
  simp only [List.all_eq_true, hp]

/-- behind all four separator grammars: separator, element test and minimum count are variables -/
theorem split_all_iff (sep : Char) {p : List Char → Bool} {ok : List Char → Prop}
    (hp : ∀ e, p e = true ↔ ok e) (k : Nat) (s : List Char) :
    ((splitOn sep s).all p && decide (k ≤ (splitOn sep s).length)) = true ↔
      ∃ n, k ≤ n ∧ Sep sep ok s n := by
  simp only [Bool.and_eq_true, decide_eq_true_eq, all_iff hp, sep_iff_split]
  exact ⟨fun ⟨ha, hk⟩ => ⟨_, hk, rfl, ha⟩, fun ⟨_, hk, hl, ha⟩ => ⟨ha, hl ▸ hk⟩⟩

theorem elemOk_iff {cls : Char → Bool} {chr : Char → Prop} (hc : ∀ c, cls c = true ↔ chr c)
    (b : Bool) (e : List Char) : elemOk cls b e = true ↔ SpecElem chr b e := by
  cases e with
  | nil => exact ⟨fun h => (nomatch h), fun h => absurd rfl h.1⟩
  | cons c cs =>
    have hd : (b || !isDigit c) = true ↔ (b = false → ¬ SpecDigit c) := by
      cases b <;> simp [← isDigit_iff]
    simp only [elemOk, SpecElem, Bool.and_eq_true, all_iff hc, hd, ne_eq, reduceCtorEq,
      not_false_eq_true, true_and, List.head?_cons, Option.some.injEq, forall_eq', and_comm]

theorem SpecElem.ascii {chr : Char → Prop} (hchr : ∀ c, chr c → Ascii c) {b : Bool} {e : List Char}
    (h : SpecElem chr b e) : ∀ c ∈ e, Ascii c :=
  fun c hc => hchr c (h.2.1 c hc)

theorem Sep.ascii {sep : Char} {chr : Char → Prop} {b : Bool} {s : List Char} {n : Nat} (hsep : Ascii sep)
    (hchr : ∀ c, chr c → Ascii c) (h : Sep sep (SpecElem chr b) s n) : ∀ c ∈ s, Ascii c := by
  induction h with
  | single he _ => exact he.ascii hchr
  | cons he _ _ ih =>
    intro c hc
    rcases List.mem_append.mp hc with hc | hc
    · exact he.ascii hchr c hc
    · rcases List.mem_cons.mp hc with rfl | hc
      · exact hsep
      · exact ih c hc

theorem SpecInterface.ascii {s : List Char} : SpecInterface s → ∀ c ∈ s, Ascii c :=
  fun ⟨_, _, _, h⟩ => h.ascii ⟨by decide, by decide⟩ @SpecNameChar.ascii

theorem SpecBusname.ascii {s : List Char} : SpecBusname s → ∀ c ∈ s, Ascii c := by
  rintro ⟨_, ⟨r, n, rfl, _, h⟩ | ⟨_, n, _, h⟩⟩
  · exact List.forall_mem_cons.mpr ⟨⟨by decide, by decide⟩, h.ascii ⟨by decide, by decide⟩ @SpecBusChar.ascii⟩
  · exact h.ascii ⟨by decide, by decide⟩ @SpecBusChar.ascii

theorem SpecMember.ascii {s : List Char} (h : SpecMember s) : ∀ c ∈ s, Ascii c :=
  fun c hc => (h.2.2.1 c hc).ascii

theorem validateInterface_spec (s : List Char) : validateInterface s = true ↔ SpecInterface s :=
  len_guard_iff s (split_all_iff '.' (elemOk_iff clsName_iff false) 2 s) SpecInterface.ascii

theorem validateBusname_spec (s : List Char) : validateBusname s = true ↔ SpecBusname s := by
  refine len_guard_iff s ?_ SpecBusname.ascii
  · split
    rename_i b rest heq
    rw [split_all_iff '.' (elemOk_iff clsBus_iff b) 2 rest]
    split at heq <;> cases heq
    · constructor
      · exact fun ⟨n, h⟩ => .inl ⟨_, n, rfl, h⟩
      · rintro (⟨r', n, he, h⟩ | ⟨hh, _⟩)
        · cases he; exact ⟨n, h⟩
        · exact absurd rfl hh
    · rename_i hnot
      have hhead : s.head? ≠ some ':' := by
        intro h
        cases s with
        | nil => cases h
        | cons c cs => cases h; exact hnot cs rfl
      constructor
      · exact fun h => .inr ⟨hhead, h⟩
      · rintro (⟨r, n, rfl, _⟩ | ⟨_, h⟩)
        · exact absurd rfl hhead
        · exact h

theorem validateMembername_spec (s : List Char) : validateMembername s = true ↔ SpecMember s := by
  have hv : validateMembername s = if utf8Len s > 255 then false else elemOk clsName false s := by
    cases s with
    | nil => rfl
    | cons c cs => simp only [validateMembername, List.isEmpty_cons, Bool.false_or, decide_eq_true_eq, elemOk]
  have hs : SpecMember s ↔ s.length ≤ 255 ∧ SpecElem SpecNameChar false s :=
    ⟨fun ⟨h1, h2, h3, h4⟩ => ⟨h2, h1, h3, fun _ => h4⟩, fun ⟨h2, h1, h3, h4⟩ => ⟨h1, h2, h3, h4 rfl⟩⟩
  rw [hv, hs]
  exact len_guard_iff s (elemOk_iff clsName_iff false s) (·.2.ascii @SpecNameChar.ascii)

theorem validateObjectPath_spec (s : List Char) : validateObjectPath s = true ↔ SpecObjectPath s := by
  unfold validateObjectPath SpecObjectPath
  split
  · rename_i rest
    cases rest with
    | nil => exact ⟨fun _ => .inl rfl, fun _ => rfl⟩
    | cons c cs =>
      have hp : ∀ e : List Char, (!e.isEmpty && e.all clsName) = true ↔ e ≠ [] ∧ ∀ c ∈ e, SpecNameChar c :=
        fun e => by
          rw [Bool.and_eq_true, all_iff clsName_iff, Bool.not_eq_true', List.isEmpty_eq_false_iff]
      have key := split_all_iff '/' hp 1 (c :: cs)
      rw [decide_eq_true (p := 1 ≤ _) (List.length_pos_iff.mpr (splitOn_ne_nil _ _)), Bool.and_true] at key
      rw [List.isEmpty_cons, if_neg Bool.false_ne_true, key]
      constructor
      · exact fun ⟨n, h⟩ => .inr ⟨_, n, rfl, h⟩
      · rintro (h | ⟨r, n, h, hh⟩)
        · cases h
        · cases h; exact ⟨n, hh⟩
  · rename_i hno
    constructor
    · intro h; cases h
    · rintro (rfl | ⟨r, n, rfl, _⟩)
      · exact absurd rfl (hno [])
      · exact absurd rfl (hno r)

end Rustbus.Names
