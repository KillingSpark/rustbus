import RustbusModel.Model.Bytes
/-!
Byte-level lemmas for the wire proofs: fixed-width integers in both byte orders, padding arithmetic, slices,
and the window predicate `HasAt`, through which `skipPad`, `readNum` and the frame of the string-likes are
characterised (`skipPad_iff`, `readNum_iff`, `frame_iff`).
-/
namespace Rustbus.Bytes

@[simp] theorem leBytes_length (k n : Nat) : (leBytes k n).length = k := by
  induction k generalizing n with
  | zero => rfl
  | succ k ih => simp [leBytes, ih]

theorem leVal_leBytes (k n : Nat) (h : n < 256 ^ k) : leVal (leBytes k n) = n := by
  induction k generalizing n with
  | zero => simp [leBytes, leVal]; omega
  | succ k ih =>
    simp only [leBytes, leVal]
    have h2 : n / 256 < 256 ^ k := Nat.div_lt_of_lt_mul (by omega)
    rw [ih _ h2]
    have : (UInt8.ofNat (n % 256)).toNat = n % 256 := by
      simp [UInt8.toNat_ofNat']
    omega

theorem leBytes_leVal (bs : List UInt8) : leBytes bs.length (leVal bs) = bs := by
  induction bs with
  | nil => simp [leBytes]
  | cons b bs ih =>
    simp only [List.length_cons, leBytes, leVal]
    have hb : b.toNat < 256 := b.toNat_lt
    have h1 : (b.toNat + 256 * leVal bs) % 256 = b.toNat := by omega
    have h2 : (b.toNat + 256 * leVal bs) / 256 = leVal bs := by omega
    rw [h1, h2, ih]
    simp

theorem leVal_lt (bs : List UInt8) : leVal bs < 256 ^ bs.length := by
  induction bs with
  | nil => simp [leVal]
  | cons b bs ih =>
    simp only [leVal, List.length_cons, Nat.pow_succ]
    have hb : b.toNat < 256 := b.toNat_lt
    omega

@[simp] theorem bytesOf_length (bo : ByteOrder) (k n : Nat) : (bytesOf bo k n).length = k := by
  cases bo <;> simp [bytesOf]

theorem valOf_bytesOf (bo : ByteOrder) (k n : Nat) (h : n < 256 ^ k) :
    valOf bo (bytesOf bo k n) = n := by
  cases bo <;> simp [bytesOf, valOf, leVal_leBytes k n h]

theorem bytesOf_valOf (bo : ByteOrder) (bs : List UInt8) :
    bytesOf bo bs.length (valOf bo bs) = bs := by
  cases bo with
  | le => simp [bytesOf, valOf, leBytes_leVal]
  | be =>
    simp only [bytesOf, valOf]
    rw [← List.length_reverse, leBytes_leVal, List.reverse_reverse]

theorem valOf_lt (bo : ByteOrder) (bs : List UInt8) : valOf bo bs < 256 ^ bs.length := by
  cases bo with
  | le => exact leVal_lt bs
  | be => exact List.length_reverse ▸ leVal_lt bs.reverse

theorem bytesOf_one (bo : ByteOrder) (n : Nat) (h : n < 256) : bytesOf bo 1 n = [UInt8.ofNat n] := by
  have : n % 256 = n := Nat.mod_eq_of_lt h
  cases bo <;> simp [bytesOf, leBytes, this]

theorem padLen_one (off : Nat) : padLen 1 off = 0 := by simp [padLen, Nat.mod_one]

theorem padLen_zero_of_mod {a off : Nat} (h : off % a = 0) : padLen a off = 0 := by
  simp [padLen, h]

theorem padLen_add_mod {a : Nat} (ha : 0 < a) (o : Nat) : (o + padLen a o) % a = 0 := by
  rw [padLen, Nat.add_mod_mod, ← Nat.mod_add_mod, Nat.add_sub_cancel' (Nat.le_of_lt (Nat.mod_lt o ha)),
    Nat.mod_self]

/-- every alignment divides 8, so padding sees an offset only modulo 8 -/
theorem padLen_congr {a off off' : Nat} (ha : a ∣ 8) (hm : off % 8 = off' % 8) :
    padLen a off = padLen a off' := by
  unfold padLen
  rw [← Nat.mod_mod_of_dvd off ha, hm, Nat.mod_mod_of_dvd off' ha]

theorem mod8_add {a b : Nat} (h : a % 8 = b % 8) (c : Nat) : (a + c) % 8 = (b + c) % 8 := by
  rw [Nat.add_mod, h, ← Nat.add_mod]

@[simp] theorem zeros_length (n : Nat) : (zeros n).length = n := by simp [zeros]

theorem allZero_zeros (n : Nat) : allZero (zeros n) = true := by
  simp [allZero, zeros]

theorem allZero_eq_zeros (l : List UInt8) (h : allZero l = true) : l = zeros l.length :=
  List.eq_replicate_iff.2 ⟨rfl, by simpa [allZero] using h⟩

theorem slice_length (buf : List UInt8) (off k : Nat) (h : off + k ≤ buf.length) :
    (slice buf off k).length = k := by
  simp [slice]; omega

theorem slice_zero (buf : List UInt8) (off : Nat) : slice buf off 0 = [] := by
  simp [slice]

theorem slice_add (buf : List UInt8) (off a b : Nat) :
    slice buf off (a + b) = slice buf off a ++ slice buf (off + a) b := by
  simp only [slice]
  rw [List.take_add, List.drop_drop]

theorem slice_mid (pre mid suf : List UInt8) (off k : Nat) (h1 : off = pre.length)
    (h2 : k = mid.length) : slice (pre ++ (mid ++ suf)) off k = mid := by
  subst h1 h2; simp [slice]

theorem slice_one_ok (pre suf : List UInt8) (x : UInt8) (off : Nat) (ho : off = pre.length) :
    slice (pre ++ (x :: suf)) off 1 = [x] :=
  slice_mid pre [x] suf off 1 ho rfl

theorem slice_take (buf : List UInt8) (k a b : Nat) (h : a + b ≤ k) :
    slice (buf.take k) a b = slice buf a b := by
  simp only [slice, List.drop_take, List.take_take]
  congr 1; omega

theorem slice_of_take_eq {buf buf' : List UInt8} {n : Nat} (h : buf.take n = buf'.take n) (off k : Nat)
    (hk : off + k ≤ n) : slice buf off k = slice buf' off k := by
  rw [← slice_take buf n off k hk, h, slice_take buf' n off k hk]

/-- "agree" in lemma names (`agree_*`, `dec_agree`, `decodeField_agree` …): two buffers with the same first `lim`
    bytes, `buf.take lim = buf'.take lim`; a reader with limit `lim` cannot tell them apart -/
theorem agree_len {buf buf' : List UInt8} {lim : Nat} (h : buf.take lim = buf'.take lim) :
    lim ≤ buf.length ↔ lim ≤ buf'.length := by
  have := congrArg List.length h
  simp only [List.length_take] at this
  omega

theorem agree_mono {buf buf' : List UInt8} {lim l : Nat} (h : buf.take lim = buf'.take lim) (hl : l ≤ lim) :
    buf.take l = buf'.take l := by
  simpa [List.take_take, Nat.min_eq_left hl] using congrArg (List.take l) h

theorem valOf_slice (bo : ByteOrder) {buf : List UInt8} {off k : Nat} (h : off + k ≤ buf.length) :
    valOf bo (slice buf off k) < 256 ^ k ∧ bytesOf bo k (valOf bo (slice buf off k)) = slice buf off k := by
  have h1 := valOf_lt bo (slice buf off k)
  have h2 := bytesOf_valOf bo (slice buf off k)
  rw [slice_length buf off k h] at h1 h2
  exact ⟨h1, h2⟩

theorem valOf_slice_one (bo bo' : ByteOrder) (buf : List UInt8) (off : Nat) :
    valOf bo (slice buf off 1) = valOf bo' (slice buf off 1) := by
  have h : (slice buf off 1).length ≤ 1 := by simp only [slice, List.length_take]; omega
  match slice buf off 1, h with
  | [], _ | [x], _ => cases bo <;> cases bo' <;> rfl

/-- `buf` holds the bytes `bs` at offset `off` -/
def HasAt (buf : List UInt8) (off : Nat) (bs : List UInt8) : Prop :=
  off + bs.length ≤ buf.length ∧ slice buf off bs.length = bs

theorem hasAt_nil {buf : List UInt8} {off : Nat} (h : off ≤ buf.length) : HasAt buf off [] :=
  ⟨h, slice_zero buf off⟩

theorem hasAt_slice {buf : List UInt8} {off n : Nat} (h : off + n ≤ buf.length) :
    HasAt buf off (slice buf off n) := by
  have := slice_length buf off n h
  exact ⟨by omega, by rw [this]⟩

theorem hasAt_mid (pre bs suf : List UInt8) : HasAt (pre ++ (bs ++ suf)) pre.length bs :=
  ⟨by simp only [List.length_append]; omega, slice_mid pre bs suf _ _ rfl rfl⟩

theorem hasAt_append {buf : List UInt8} {off : Nat} {a b : List UInt8} :
    HasAt buf off (a ++ b) ↔ HasAt buf off a ∧ HasAt buf (off + a.length) b := by
  simp only [HasAt, List.length_append, slice_add]
  constructor
  · rintro ⟨hl, h⟩
    have := List.append_inj h (slice_length _ _ _ (by omega))
    exact ⟨⟨by omega, this.1⟩, by omega, this.2⟩
  · rintro ⟨⟨_, ha⟩, hl, hb⟩
    exact ⟨by omega, by rw [ha, hb]⟩

theorem skipPad_iff {buf : List UInt8} {off lim a o : Nat} :
    skipPad buf off lim a = some o ↔
      o = off + padLen a off ∧ o ≤ lim ∧ lim ≤ buf.length ∧ HasAt buf off (zeros (padLen a off)) := by
  unfold skipPad HasAt
  rw [zeros_length]
  constructor
  · intro h
    split at h
    · rename_i hc
      cases h
      have := allZero_eq_zeros _ hc.2.2
      rw [slice_length _ _ _ (by omega)] at this
      exact ⟨rfl, hc.1, hc.2.1, by omega, this⟩
    · cases h
  · rintro ⟨rfl, h1, h2, _, hz⟩
    rw [hz, if_pos ⟨h1, h2, allZero_zeros _⟩]

theorem skipPad_le {buf : List UInt8} {off lim a o : Nat} (h : skipPad buf off lim a = some o) : off ≤ o :=
  (skipPad_iff.1 h).1 ▸ Nat.le_add_right _ _

theorem skipPad_aligned {buf : List UInt8} {off lim a o : Nat} (ha : 0 < a)
    (h : skipPad buf off lim a = some o) : o % a = 0 :=
  (skipPad_iff.1 h).1 ▸ padLen_add_mod ha off

theorem skipPad_of_aligned {buf : List UInt8} {off lim a : Nat} (hal : off % a = 0) (h1 : off ≤ lim)
    (h2 : lim ≤ buf.length) : skipPad buf off lim a = some off := by
  rw [skipPad, padLen_zero_of_mod hal, slice_zero, if_pos ⟨h1, h2, rfl⟩]
  rfl

theorem readNum_iff {bo : ByteOrder} {buf : List UInt8} {off lim k n : Nat} :
    readNum bo buf off lim k = some n ↔
      off + k ≤ lim ∧ lim ≤ buf.length ∧ n < 256 ^ k ∧ HasAt buf off (bytesOf bo k n) := by
  unfold readNum HasAt
  rw [bytesOf_length]
  constructor
  · intro h
    split at h
    · rename_i hc
      cases h
      have hb := Nat.le_trans hc.1 hc.2
      obtain ⟨h1, h2⟩ := valOf_slice bo hb
      exact ⟨hc.1, hc.2, h1, hb, h2.symm⟩
    · cases h
  · rintro ⟨h1, h2, h3, _, h4⟩
    rw [if_pos ⟨h1, h2⟩, h4, valOf_bytesOf bo k n h3]

theorem readNum_one (bo : ByteOrder) (buf : List UInt8) (off lim : Nat) :
    readNum bo buf off lim 1 = readNum .le buf off lim 1 := by
  rw [readNum, readNum, valOf_slice_one bo .le]

/-- the framing shared by strings, object paths, signatures and the signature of a variant:
    a length word of `a` bytes at `o`, that many bytes `s`, a NUL -/
theorem frame_iff {bo : ByteOrder} {buf : List UInt8} {o lim a len : Nat} {s : List UInt8} :
    (readNum bo buf o lim a = some len ∧ o + len + (a + 1) ≤ lim ∧
      slice buf (o + a + len) 1 = [0] ∧ slice buf (o + a) len = s) ↔
    (len = s.length ∧ len < 256 ^ a ∧ o + len + (a + 1) ≤ lim ∧ lim ≤ buf.length ∧
      HasAt buf o (bytesOf bo a len ++ (s ++ [0]))) := by
  simp only [readNum_iff, hasAt_append, bytesOf_length]
  constructor
  · rintro ⟨⟨_, hl, hn, hw⟩, hle, hz, hs⟩
    have hlen := slice_length buf (o + a) len (by omega)
    rw [hs] at hlen
    subst hlen
    exact ⟨rfl, hn, hle, hl, hw, ⟨by omega, hs⟩, by simp only [List.length_cons, List.length_nil]; omega, hz⟩
  · rintro ⟨rfl, hn, hle, hl, hw, ⟨_, hs⟩, _, hz⟩
    exact ⟨⟨by omega, hl, hn, hw⟩, hle, hz, hs⟩

theorem length_frame (bo : ByteOrder) (a n : Nat) (s : List UInt8) :
    (bytesOf bo a n ++ (s ++ [0])).length = s.length + (a + 1) := by
  rw [List.length_append, bytesOf_length, List.length_append, List.length_singleton]
  exact Nat.add_left_comm ..

end Rustbus.Bytes
