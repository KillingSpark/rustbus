import RustbusModel.Spec.Wire
import RustbusModel.Lemmas.WireEnc
/-!
Shape facts about `enc` (what makes it recognisably *the* D-Bus encoding), the typing predicate, and the depth and
descriptor bounds of dict entries as those of their structs (`entries_as_structs`).
-/
namespace Rustbus.Wire
open Rustbus.Bytes Rustbus.Spec.Wire

theorem enc_aligned {bo : ByteOrder} {off : Nat} {t : Ty} {v : Val} {bs : List UInt8}
    (h : enc bo off t v = some bs) : ∃ r, bs = zeros (padLen t.align off) ++ r ∧ 0 < r.length := by
  refine (enc_some_induct bo (P := fun off t _ bs => ∃ r, bs = zeros (padLen t.align off) ++ r ∧ 0 < r.length)
    (PL := fun _ _ _ _ => True) (PF := fun _ fs _ bs => fs ≠ [] → 0 < bs.length)
    ?base ?arr ?dict ?struct ?var ?Lnil ?Lcons ?Fnil ?Fcons).1 t v off bs h
  case base =>
    intro off b v bs h
    rcases encBase_eq_some.1 h with ⟨k, n, hk, rfl, hn, rfl⟩ | ⟨s, hk, rfl, hs, hl, rfl⟩
    · exact ⟨_, rfl, by rw [bytesOf_length]; exact (fixedSize_facts hk).1⟩
    · exact ⟨_, rfl, by simp; omega⟩
  case arr => intro off e vs body _ _; exact ⟨_, rfl, by simp; omega⟩
  case dict => intro off k vt es bs _ ih; exact ih
  case struct => intro off fs vs body hne ih; exact ⟨body, rfl, ih hne⟩
  case var => intro off t v body _ _; exact ⟨_, by rw [Ty.align, padLen_one]; rfl, by simp⟩
  case Lnil | Lcons => intros; trivial
  case Fnil => intro off h; exact absurd rfl h
  case Fcons =>
    rintro off t ts v vs b r ⟨r', rfl, hr⟩ - -
    simp only [List.length_append]; omega

/-- progress of the element loops -/
theorem enc_pos {bo : ByteOrder} {off : Nat} {t : Ty} {v : Val} {bs : List UInt8}
    (h : enc bo off t v = some bs) : 0 < bs.length := by
  obtain ⟨r, rfl, hr⟩ := enc_aligned h
  rw [List.length_append]
  omega

/-- the two ways of saying that the length of a string-like fits its length field -/
theorem strLike_length {b : Base} {s : List UInt8} (hk : b.fixedSize = none) (hs : strOk b s = true) :
    s.length < 256 ^ b.align ↔ s.length < 256 ^ 4 := by
  cases b <;> first | exact Iff.rfl | cases hk
  have := strOk_signature_length s hs
  exact ⟨fun _ => by omega, fun _ => Nat.lt_succ_of_le this⟩

theorem wellTyped_bad (t : Ty) (v : Val) (h : shapeOk t v = false) : wellTyped t v = false := by
  cases t <;> cases v <;> simp [shapeOk] at h <;> simp [wellTyped]

theorem wellTypedEntries_bad (k : Base) (vt : Ty) (h : Val) (tl : List Val)
    (hh : ∀ kv vv, h ≠ .struct [kv, vv]) : wellTypedEntries k vt (h :: tl) = false := by
  unfold wellTypedEntries
  split
  · rename_i heq; cases heq
  · rename_i heq; cases heq; exact (hh _ _ rfl).elim
  · rfl

theorem wellTypedEntries_of_list {k : Base} {vt : Ty} {es : List Val}
    (hs : ∀ x ∈ es, ∃ kv vv, x = .struct [kv, vv]) (h : wellTypedList (.struct [.base k, vt]) es = true) :
    wellTypedEntries k vt es = true := by
  induction es with
  | nil => rfl
  | cons e tl ih =>
    obtain ⟨kv, vv, rfl⟩ := hs e (List.mem_cons_self ..)
    simp only [wellTypedList, wellTyped, wellTypedFields, Bool.and_eq_true, Bool.and_true] at h
    simp only [wellTypedEntries, h.1.2, ih (fun x hx => hs x (List.mem_cons_of_mem _ hx)) h.2, Bool.and_true]

theorem entries_as_structs {k : Base} {vt : Ty} {es : List Val} (hes : ∀ x ∈ es, ∃ kv vv, x = .struct [kv, vv]) :
    (∀ d, depthOfEntries vt es ≤ d ↔ depthOfList (.struct [.base k, vt]) es ≤ d + 1) ∧
    ∀ c, fdsBelowEntries c k vt es = fdsBelowList c (.struct [.base k, vt]) es := by
  induction es with
  | nil => exact ⟨fun d => by simp [depthOfEntries, depthOfList], fun c => rfl⟩
  | cons x es ih =>
    obtain ⟨kv, vv, rfl⟩ := hes x (List.mem_cons_self ..)
    obtain ⟨ih1, ih2⟩ := ih fun x hx => hes x (List.mem_cons_of_mem _ hx)
    constructor
    · intro d
      simp only [depthOfEntries, depthOfList, depthOf, depthOfFields, Nat.max_le, ih1]
      omega
    · intro c
      simp only [fdsBelowEntries, fdsBelowList, fdsBelow, fdsBelowFields, ih2, Bool.and_true]

theorem enc_some_wellTyped_all (bo : ByteOrder) :
    (∀ t v off bs, enc bo off t v = some bs → wellTyped t v = true) ∧
    (∀ e vs off bs, encList bo off e vs = some bs → wellTypedList e vs = true) ∧
    (∀ fs vs off bs, encFields bo off fs vs = some bs → wellTypedFields fs vs = true) := by
  apply enc_some_induct bo
  case base =>
    intro off b v bs h
    rcases encBase_eq_some.1 h with ⟨k, n, hk, rfl, hn, _⟩ | ⟨s, hk, rfl, hs, hl, _⟩
    · simp [wellTyped, hk, hn]
    · simp [wellTyped, hk, hs, (strLike_length hk hs).1 hl]
  case arr => intro off e vs body _ ih; exact ih
  case dict => intro off k vt es bs hs ih; exact wellTypedEntries_of_list hs ih
  case struct =>
    intro off fs vs body hne ih
    simp only [wellTyped, ih, Bool.and_true, Bool.not_eq_true', List.isEmpty_eq_false_iff]; exact hne
  case var => intro off t v body hok ih; simp only [wellTyped, hok, ih, Bool.and_true]
  case Lnil | Fnil => intros; rfl
  case Lcons => intro off e v vs b r ih1 ih2; simp only [wellTypedList, ih1, ih2, Bool.and_true]
  case Fcons => intro off t ts v vs b r ih1 ih2; simp only [wellTypedFields, ih1, ih2, Bool.and_true]

theorem enc_some_wellTyped {bo : ByteOrder} {off : Nat} {t : Ty} {v : Val} {bs : List UInt8}
    (h : enc bo off t v = some bs) : wellTyped t v = true :=
  (enc_some_wellTyped_all bo).1 t v off bs h

theorem wellTyped_enc_some_noarray {bo : ByteOrder} {off : Nat} {b : Base} {v : Val}
    (h : wellTyped (.base b) v = true) : (enc bo off (.base b) v).isSome = true := by
  cases v with
  | num n =>
    simp only [wellTyped, Bool.and_eq_true, decide_eq_true_eq, Option.isSome_iff_exists] at h
    obtain ⟨⟨k, hk⟩, hn⟩ := h
    exact Option.isSome_iff_exists.2 ⟨_, encBase_eq_some.2 (.inl ⟨k, n, hk, rfl, hn, rfl⟩)⟩
  | str s =>
    simp only [wellTyped, Bool.and_eq_true, decide_eq_true_eq, Option.isNone_iff_eq_none] at h
    obtain ⟨⟨hk, hs⟩, hl⟩ := h
    exact Option.isSome_iff_exists.2
      ⟨_, encBase_eq_some.2 (.inr ⟨s, hk, rfl, hs, (strLike_length hk hs).2 hl, rfl⟩)⟩
  | arr _ | struct _ | variant _ _ => simp [wellTyped] at h

theorem enc_bo_all (bo bo' : ByteOrder) :
    (∀ t v off bs, enc bo off t v = some bs → ∃ bs', enc bo' off t v = some bs' ∧ bs'.length = bs.length) ∧
    (∀ e vs off bs, encList bo off e vs = some bs →
      ∃ bs', encList bo' off e vs = some bs' ∧ bs'.length = bs.length) ∧
    (∀ fs vs off bs, encFields bo off fs vs = some bs →
      ∃ bs', encFields bo' off fs vs = some bs' ∧ bs'.length = bs.length) := by
  apply enc_some_induct bo
  case base =>
    intro off b v bs h
    rcases encBase_eq_some.1 h with ⟨k, n, hk, rfl, hn, rfl⟩ | ⟨s, hk, rfl, hs, hl, rfl⟩
    · exact ⟨_, encBase_eq_some.2 (.inl ⟨k, n, hk, rfl, hn, rfl⟩), by simp⟩
    · exact ⟨_, encBase_eq_some.2 (.inr ⟨s, hk, rfl, hs, hl, rfl⟩), by simp⟩
  case arr =>
    rintro off e vs body hl ⟨body', hb', hl'⟩
    exact ⟨_, by simp only [enc, hb', hl', hl, if_true]; rfl, by simp [hl']⟩
  case dict => intro off k vt es bs _ ih; rw [enc_dict_eq_array]; exact ih
  case struct =>
    rintro off fs vs body hne ⟨body', hb', hl'⟩
    exact ⟨_, by simp only [enc, hb', List.isEmpty_iff, hne, if_false]; rfl, by simp [hl']⟩
  case var =>
    rintro off t v body hok ⟨body', hb', hl'⟩
    exact ⟨_, by simp only [enc, hok, hb', if_true]; rfl, by simp [hl']⟩
  case Lnil | Fnil => intros; exact ⟨[], rfl, rfl⟩
  case Lcons =>
    rintro off e v vs b r ⟨b', hb', hl1⟩ ⟨r', hr', hl2⟩
    exact ⟨b' ++ r', by simp only [encList, hb', hl1, hr'], by simp [hl1, hl2]⟩
  case Fcons =>
    rintro off t ts v vs b r ⟨b', hb', hl1⟩ ⟨r', hr', hl2⟩
    exact ⟨b' ++ r', by simp only [encFields, hb', hl1, hr'], by simp [hl1, hl2]⟩

theorem enc_length_bo (off : Nat) (t : Ty) (v : Val) (bs bs' : List UInt8)
    (h : enc .le off t v = some bs) (h' : enc .be off t v = some bs') : bs.length = bs'.length := by
  obtain ⟨bs'', h2, hl⟩ := (enc_bo_all .le .be).1 t v off bs h
  rw [h'] at h2; cases h2; exact hl.symm

theorem base_align_dvd (b : Base) : b.align ∣ 8 := by cases b <;> decide

theorem ty_align_dvd (t : Ty) : t.align ∣ 8 := by
  cases t with
  | base b => exact base_align_dvd b
  | array _ | dict _ _ => exact ⟨2, rfl⟩
  | struct _ => exact ⟨1, rfl⟩
  | variant => exact ⟨8, rfl⟩

theorem enc_offset_mod8_all :
    (∀ t v, ∀ bo off off', off % 8 = off' % 8 → enc bo off t v = enc bo off' t v) ∧
    (∀ e vs, ∀ bo off off', off % 8 = off' % 8 → encList bo off e vs = encList bo off' e vs) ∧
    (∀ fs vs, ∀ bo off off', off % 8 = off' % 8 → encFields bo off fs vs = encFields bo off' fs vs) := by
  apply tyval_induct
  case hbase =>
    intro b v bo off off' hm
    simp only [enc]
    unfold encBase
    rw [padLen_congr (base_align_dvd b) hm, padLen_congr (a := 4) ⟨2, rfl⟩ hm]
  case harr =>
    intro e vs ih bo off off' hm
    have hm1 := mod8_add (mod8_add hm (padLen 4 off')) 4
    simp only [enc]
    rw [padLen_congr ⟨2, rfl⟩ hm, padLen_congr (ty_align_dvd e) hm1, ih bo _ _ (mod8_add hm1 _)]
  case hdict =>
    intro k vt es ih bo off off' hm
    rw [enc_dict_eq_array, enc_dict_eq_array]
    exact ih bo off off' hm
  case hstruct =>
    intro fs vs ih bo off off' hm
    simp only [enc]
    rw [padLen_congr ⟨1, rfl⟩ hm, ih bo _ _ (mod8_add hm _)]
  case hvar =>
    intro t v ih bo off off' hm
    simp only [enc]
    rw [ih bo _ _ (mod8_add (mod8_add hm _) 2)]
  case hbad =>
    intro t v hs bo off off' _
    rw [enc_bad hs, enc_bad hs]
  case hLnil => intros; simp only [encList]
  case hLcons =>
    intro e v vs ih1 ih2 bo off off' hm
    simp only [encList]
    rw [ih1 bo off off' hm]
    cases enc bo off' e v with
    | none => rfl
    | some b => simp only; rw [ih2 bo _ _ (mod8_add hm b.length)]
  case hFcons =>
    intro t ts v vs ih1 ih2 bo off off' hm
    simp only [encFields]
    rw [ih1 bo off off' hm]
    cases enc bo off' t v with
    | none => rfl
    | some b => simp only; rw [ih2 bo _ _ (mod8_add hm b.length)]
  case hFnil | hFbad1 | hFbad2 => intros; simp only [encFields]

theorem enc_offset_mod8 {bo : ByteOrder} {off off' : Nat} {t : Ty} {v : Val} (hm : off % 8 = off' % 8) :
    enc bo off t v = enc bo off' t v :=
  enc_offset_mod8_all.1 t v bo off off' hm

end Rustbus.Wire

#print axioms Rustbus.Wire.enc_aligned
#print axioms Rustbus.Wire.enc_pos
#print axioms Rustbus.Wire.enc_some_wellTyped
#print axioms Rustbus.Wire.wellTyped_enc_some_noarray
#print axioms Rustbus.Wire.enc_length_bo
#print axioms Rustbus.Wire.enc_offset_mod8
