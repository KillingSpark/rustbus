import RustbusModel.Lemmas.WireCorrect
/-!
Readings of `dec_iff`: the round trip in both directions, replay of a decode on another buffer, bounds, whole bodies.
`decFields_bounds` and `decBody_eq_fields` (a body is a field list decoded up to the end of the buffer) are here for
`DecCost`, where struct fields and whole bodies are charged.
-/
namespace Rustbus.Wire
open Rustbus.Bytes Rustbus.Spec.Wire

/-- A successful decode can be replayed on any buffer that holds the same bytes in the consumed window.
    `hd`: given `h` this says no more than `depthOf t v ≤ d'`; it is an implication so that a caller who keeps the
    budget (`d' = d`) passes `id`. -/
theorem dec_replay {bo : ByteOrder} {buf buf' : List UInt8} {nfds nfds' : Option Nat} {d d' : Nat} {t : Ty}
    {off lim lim' : Nat} {v : Val} {o' : Nat}
    (h : dec bo buf nfds d t off lim = some (v, o'))
    (hs : slice buf' off (o' - off) = slice buf off (o' - off)) (hl : o' ≤ lim') (hb : lim' ≤ buf'.length)
    (hd : depthOf t v ≤ d → depthOf t v ≤ d')
    (hfd : fdsOk nfds' t v = true) :
    dec bo buf' nfds' d' t off lim' = some (v, o') := by
  obtain ⟨bs, he, hw, rfl, -, -, hdv, -⟩ := dec_iff.1 h
  rw [Nat.add_sub_cancel_left, hw.2] at hs
  exact dec_iff.2 ⟨bs, he, ⟨by omega, hs⟩, rfl, hl, hb, hd hdv, fdsOk_iff.1 hfd⟩

theorem dec_enc (bo : ByteOrder) (t : Ty) (v : Val) (pre bs suf : List UInt8) (nfds : Option Nat)
    (d lim : Nat)
    (h : enc bo pre.length t v = some bs)
    (hd : depthOf t v ≤ d)
    (hfd : fdsOk nfds t v = true)
    (hl : pre.length + bs.length ≤ lim) (hl2 : lim ≤ pre.length + bs.length + suf.length) :
    dec bo (pre ++ (bs ++ suf)) nfds d t pre.length lim = some (v, pre.length + bs.length) :=
  dec_iff.2 ⟨bs, h, hasAt_mid pre bs suf, rfl, hl, by simp only [List.length_append]; omega, hd,
    fdsOk_iff.1 hfd⟩

/-- that every array is within 64 MiB is part of `enc … = some` -/
theorem enc_dec {bo : ByteOrder} {buf : List UInt8} {nfds : Option Nat} {d : Nat} {t : Ty}
    {off lim : Nat} {v : Val} {o' : Nat}
    (h : dec bo buf nfds d t off lim = some (v, o')) :
    off < o' ∧ o' ≤ lim ∧ lim ≤ buf.length ∧
    enc bo off t v = some (slice buf off (o' - off)) ∧
    depthOf t v ≤ d ∧ fdsOk nfds t v = true := by
  obtain ⟨bs, he, hw, rfl, hl, hb, hd, hf⟩ := dec_iff.1 h
  have := enc_pos he
  rw [Nat.add_sub_cancel_left, hw.2]
  exact ⟨by omega, hl, hb, he, hd, fdsOk_iff.2 hf⟩

theorem dec_bounds {bo : ByteOrder} {buf : List UInt8} {nfds : Option Nat} {d : Nat} {t : Ty} {off lim : Nat}
    {v : Val} {o' : Nat} (h : dec bo buf nfds d t off lim = some (v, o')) :
    off < o' ∧ o' ≤ lim ∧ lim ≤ buf.length :=
  have ⟨h1, h2, h3, _⟩ := enc_dec h
  ⟨h1, h2, h3⟩

theorem decFields_bounds {bo : ByteOrder} {buf : List UInt8} {nfds : Option Nat} {d : Nat} {ts : List Ty}
    {off lim : Nat} {vs : List Val} {o' : Nat} (h : decFields bo buf nfds d ts off lim = some (vs, o'))
    (ho : off ≤ lim) : off ≤ o' ∧ o' ≤ lim := by
  induction ts generalizing off vs with
  | nil => rw [decFields_nil] at h; cases h; exact ⟨Nat.le_refl _, ho⟩
  | cons t ts ih =>
    rw [decFields_cons] at h
    split at h
    · cases h
    rename_i v o1 hv
    split at h
    · cases h
    rename_i rest o2 hr
    cases h
    obtain ⟨h1, h2, -⟩ := dec_bounds hv
    obtain ⟨h3, h4⟩ := ih hr h2
    exact ⟨Nat.le_trans (Nat.le_of_lt h1) h3, h4⟩

/-- the descriptor check is the only difference between validating and unmarshalling -/
theorem dec_nfds (bo : ByteOrder) (buf : List UInt8) (c d : Nat) (t : Ty) (off lim : Nat)
    (v : Val) (o' : Nat) :
    dec bo buf (some c) d t off lim = some (v, o') ↔
      (dec bo buf none d t off lim = some (v, o') ∧ fdsBelow c t v = true) := by
  rw [dec_iff, dec_iff]
  exact ⟨fun ⟨bs, h⟩ => ⟨⟨bs, { h with fds := nofun }⟩, h.fds c rfl⟩,
    fun ⟨⟨bs, h⟩, hf⟩ => ⟨bs, { h with fds := fun _ hc => Option.some.inj hc ▸ hf }⟩⟩

theorem dec_mono (bo : ByteOrder) (buf : List UInt8) (nfds : Option Nat) (d d' : Nat) (t : Ty)
    (off lim : Nat) (r : Val × Nat) (hdd : d ≤ d')
    (h : dec bo buf nfds d t off lim = some r) : dec bo buf nfds d' t off lim = some r := by
  obtain ⟨bs, h⟩ := dec_iff.1 h
  exact dec_iff.2 ⟨bs, { h with depth := Nat.le_trans h.depth hdd }⟩

theorem decBody_encFields (bo : ByteOrder) (nfds : Option Nat) (ts : List Ty) (vs : List Val)
    (pre bs : List UInt8) (h : encFields bo pre.length ts vs = some bs)
    (hall : ∀ p ∈ ts.zip vs, depthOf p.1 p.2 ≤ maxDepth ∧ fdsOk nfds p.1 p.2 = true) :
    decBody bo (pre ++ bs) nfds ts pre.length = some vs := by
  induction ts generalizing vs pre bs with
  | nil =>
    cases vs with
    | nil => cases h; simp [decBody]
    | cons v vs => simp [encFields] at h
  | cons t ts ih =>
    cases vs with
    | nil => simp [encFields] at h
    | cons v vs =>
      obtain ⟨b, r, hb, hr, rfl⟩ := encFields_cons_some h
      obtain ⟨hd, hf⟩ := hall (t, v) (List.mem_cons_self ..)
      rw [decBody, dec_iff.2 ⟨b, hb, hasAt_mid pre b r, rfl, (hasAt_mid pre b r).1, Nat.le_refl _, hd,
        fdsOk_iff.1 hf⟩]
      have := ih vs (pre ++ b) r (by rwa [List.length_append]) fun p hp => hall p (List.mem_cons_of_mem _ hp)
      rw [List.append_assoc, List.length_append] at this
      simp only [this]

theorem decBody_eq_fields (bo : ByteOrder) (buf : List UInt8) (nfds : Option Nat) (ts : List Ty) (off : Nat) :
    decBody bo buf nfds ts off =
      match decFields bo buf nfds maxDepth ts off buf.length with
      | none => none
      | some (vs, o) => if o = buf.length then some vs else none := by
  induction ts generalizing off with
  | nil => simp only [decBody, decFields_nil]
  | cons t ts ih =>
    simp only [decBody, decFields_cons]
    cases dec bo buf nfds maxDepth t off buf.length with
    | none => rfl
    | some p =>
      obtain ⟨v, o'⟩ := p
      simp only [ih]
      cases decFields bo buf nfds maxDepth ts o' buf.length with
      | none => rfl
      | some q =>
        obtain ⟨vs, o⟩ := q
        by_cases ho : o = buf.length <;> simp [ho]

end Rustbus.Wire

#print axioms Rustbus.Wire.dec_enc
#print axioms Rustbus.Wire.enc_dec
#print axioms Rustbus.Wire.dec_nfds
#print axioms Rustbus.Wire.dec_mono
