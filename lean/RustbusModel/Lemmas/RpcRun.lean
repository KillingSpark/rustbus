import RustbusModel.Lemmas.Rpc
/-!
C14, the socket. `refill_once`, `refill_all` and `wait_*` as recursions over what is in it (`wait` through its three
equations and the rule induction `wait_induction` along them); `Tracks`, the invariant of a state that keeps up with a
sequence of arrivals, which every operation and so every history keeps; no history reaches the `unwrap()` panic while
the accepted replies in the socket and to come carry their serial (`run_isSome`).
-/
namespace Rustbus.Rpc

theorem refillOnce_nil {st : State} (hw : st.wire = []) : refillOnce st = some (none, st) := by
  simp only [refillOnce, hw]

theorem refillOnce_cons {st : State} {m : Msg} {w : List Msg} (hw : st.wire = m :: w) :
    refillOnce st = (insertOrSendError { st with wire := w } m).map fun st' => (some m.typ, st') := by
  simp only [refillOnce, hw]
  cases insertOrSendError { st with wire := w } m <;> rfl

theorem refillAllLoop_cons (m : Msg) (w : List Msg) (st : State) (acc : List ErrReply) :
    refillAllLoop (m :: w) st acc =
      (classify { st with wire := w } m).bind fun st' => refillAllLoop w st' (acc ++ owed [m]) := by
  rw [refillAllLoop]
  cases ha : m.accepted
  · cases ht : m.typ <;> simp [classify_rejected ha, owed, rejCall, isCall, ha, ht]
  · simp only [acceptInto_eq ha, owed_accepted ha, List.append_nil]
    cases classify { st with wire := w } m <;> rfl

theorem wait_hit {st : State} {k : Consumer} {m : Msg} (hg : (tryGet st k).1 = some m) :
    wait st k = some (some m, (tryGet st k).2) := by
  rw [wait, waitLoop, show tryGet st k = (some m, (tryGet st k).2) from Prod.ext hg rfl]

theorem wait_dry {st : State} {k : Consumer} (hg : (tryGet st k).1 = none) (hw : st.wire = []) :
    wait st k = some (none, st) := by
  rw [wait, waitLoop, show tryGet st k = (none, st) from Prod.ext hg (tryGet_none hg)]
  simp only [refillOnce_nil hw]

/-- The fuel plays no part: the turn of the loop that goes on has taken one message from the socket, so the fuel left
    is what a fresh `wait` starts with, and `wire.length + 1` turns are never used up. -/
theorem wait_read {st : State} {k : Consumer} {m : Msg} {w : List Msg} (hg : (tryGet st k).1 = none)
    (hw : st.wire = m :: w) : wait st k = (insertOrSendError { st with wire := w } m).bind (wait · k) := by
  rw [wait, waitLoop, show tryGet st k = (none, st) from Prod.ext hg (tryGet_none hg)]
  simp only [refillOnce_cons hw]
  cases hi : insertOrSendError { st with wire := w } m with
  | none => rfl
  | some st₁ => simp only [Option.map_some, Option.bind_some, wait, insertOrSendError_wire hi, hw, List.length_cons]

theorem wait_induction (k : Consumer) {P : State → Option Msg → State → Prop}
    (hit : ∀ {st m}, (tryGet st k).1 = some m → P st (some m) (tryGet st k).2)
    (dry : ∀ {st}, (tryGet st k).1 = none → st.wire = [] → P st none st)
    (read : ∀ {st m w st₁ r st'}, (tryGet st k).1 = none → st.wire = m :: w →
      insertOrSendError { st with wire := w } m = some st₁ → P st₁ r st' → P st r st')
    {st : State} {r : Option Msg} {st' : State} (h : wait st k = some (r, st')) : P st r st' := by
  generalize hl : st.wire = l
  induction l generalizing st with
  | nil =>
    cases hg : (tryGet st k).1 with
    | some m => rw [wait_hit hg] at h; cases h; exact hit hg
    | none => rw [wait_dry hg hl] at h; cases h; exact dry hg hl
  | cons m w ih =>
    cases hg : (tryGet st k).1 with
    | some m' => rw [wait_hit hg] at h; cases h; exact hit hg
    | none =>
      rw [wait_read hg hl, Option.bind_eq_some_iff] at h
      obtain ⟨st₁, hi, h⟩ := h
      exact read hg hl hi (ih h (insertOrSendError_wire hi))

theorem wait_blocked {st st' : State} {k : Consumer} (h : wait st k = some (none, st')) :
    stored st' k = none ∧ st'.wire = [] :=
  wait_induction k (P := fun _ r st' => r = none → stored st' k = none ∧ st'.wire = [])
    (fun _ h => nomatch h) (fun hg hnil _ => ⟨tryGet_is_stored _ k ▸ hg, hnil⟩) (fun _ _ _ ih => ih) h rfl

theorem arrivals_cons (op : Op) (ops : List Op) : arrivals (op :: ops) = arrivals [op] ++ arrivals ops := by
  cases op <;> rfl

theorem arrivals_append (a b : List Op) : arrivals (a ++ b) = arrivals a ++ arrivals b := by
  induction a with
  | nil => rfl
  | cons op a ih => rw [List.cons_append, arrivals_cons, arrivals_cons op a, ih, List.append_assoc]

/- The three `try_get_*` operations as one, indexed by the consumer, and likewise the three `wait_*`: with `Op.byKind`
   a statement about all nine operations is proved in five cases. -/
def Op.tryGet : Consumer → Op
  | .signal => .trySignal
  | .call => .tryCall
  | .response s => .tryResponse s

def Op.wait : Consumer → Op
  | .signal => .waitSignal
  | .call => .waitCall
  | .response s => .waitResponse s

theorem Op.byKind {motive : Op → Prop} (arrive : ∀ m, motive (.arrive m))
    (tryGet : ∀ k, motive (.tryGet k)) (wait : ∀ k, motive (.wait k))
    (refillOnce : motive .refillOnce) (refillAll : motive .refillAll) : ∀ op, motive op
  | .arrive m => arrive m
  | .tryResponse s => tryGet (.response s)
  | .trySignal => tryGet .signal
  | .tryCall => tryGet .call
  | .refillOnce => refillOnce
  | .refillAll => refillAll
  | .waitResponse s => wait (.response s)
  | .waitSignal => wait .signal
  | .waitCall => wait .call

theorem arrivals_tryGet (k : Consumer) : arrivals [.tryGet k] = [] := by cases k <;> rfl
theorem arrivals_wait (k : Consumer) : arrivals [.wait k] = [] := by cases k <;> rfl

theorem deliveredOf_tryGet (k : Consumer) (r : Option Msg) :
    deliveredOf (.tryGet k, .tried r) = optEvent k r := by
  cases k <;> cases r <;> rfl

theorem deliveredOf_wait (k : Consumer) (r : Option Msg) :
    deliveredOf (.wait k, waitObs r) = optEvent k r := by
  cases k <;> cases r <;> rfl

theorem returnedOf_wait (op : Op) (r : Option Msg) : returnedOf (op, waitObs r) = [] := by
  cases r <;> rfl

theorem step_tryGet (st : State) (k : Consumer) :
    step st (.tryGet k) = some (.tried (tryGet st k).1, (tryGet st k).2) := by
  cases k <;> rfl

theorem step_wait (st : State) (k : Consumer) :
    step st (.wait k) = (wait st k).map fun p => (waitObs p.1, p.2) := by
  cases k <;> simp only [Op.wait, step] <;> cases wait st _ <;> rfl

theorem step_wait_some {st st' : State} {k : Consumer} {obs : Obs}
    (h : step st (.wait k) = some (obs, st')) : ∃ r, wait st k = some (r, st') ∧ obs = waitObs r := by
  rw [step_wait, Option.map_eq_some_iff] at h
  obtain ⟨⟨r, st₁⟩, hw, h⟩ := h
  cases h
  exact ⟨r, hw, rfl⟩

theorem step_refillOnce_some {st st' : State} {obs : Obs} (h : step st .refillOnce = some (obs, st')) :
    ∃ r, refillOnce st = some (r, st') ∧
      deliveredOf (.refillOnce, obs) = [] ∧ returnedOf (.refillOnce, obs) = [] := by
  rw [step] at h
  split at h
  · cases h
  all_goals
    cases h
    exact ⟨_, ‹_›, rfl, rfl⟩

theorem step_refillAll_some {st st' : State} {obs : Obs} (h : step st .refillAll = some (obs, st')) :
    ∃ errs, refillAll st = some (errs, st') ∧ obs = .drained errs := by
  rw [step] at h
  split at h
  · cases h
  · cases h; exact ⟨_, ‹_›, rfl⟩

/-- `st` keeps up with the arrivals `a`: all of `a` but what is still in the socket has been read, and `st` represents
    the abstract queues of that part. A client operation leaves `a` alone and moves messages from the socket to the part read. -/
def Tracks (a : List Msg) (evs : List (Consumer × Msg)) (ret : List ErrReply) (st : State) : Prop :=
  ∃ c, a = c ++ st.wire ∧ Refines c evs ret st

theorem Tracks.tryGet {a evs ret st} (h : Tracks a evs ret st) (k : Consumer) :
    Tracks a (evs ++ optEvent k (tryGet st k).1) ret (tryGet st k).2 := by
  obtain ⟨c, rfl, h⟩ := h
  exact ⟨c, by rw [(tryGet_frame st k).1], h.tryGet k⟩

theorem Tracks.read {a evs ret st m w st'} (h : Tracks a evs ret st)
    (hd : DistinctReplySerials a) (hw : st.wire = m :: w)
    (hc : classify { st with wire := w } m = some st') (e₁ e₂ : List ErrReply)
    (he : owed [m] = e₁ ++ e₂) :
    Tracks a evs (ret ++ e₂) { st' with sent := st'.sent ++ e₁ } := by
  obtain ⟨c, rfl, h⟩ := h
  rw [hw, List.append_cons] at hd
  exact ⟨c ++ [m], by rw [hw, classify_wire hc, List.append_cons],
    (h.wire w).read (distinct_prefix hd) hc e₁ e₂ he⟩

theorem Tracks.insertOrSendError {a evs ret st m w st'} (h : Tracks a evs ret st)
    (hd : DistinctReplySerials a) (hw : st.wire = m :: w)
    (hi : insertOrSendError { st with wire := w } m = some st') : Tracks a evs ret st' := by
  rw [insertOrSendError_eq, Option.map_eq_some_iff] at hi
  obtain ⟨st₁, hc, rfl⟩ := hi
  simpa using h.read hd hw hc (owed [m]) [] (List.append_nil _).symm

theorem Tracks.refillOnce {a evs ret st r st'} (h : Tracks a evs ret st)
    (hd : DistinctReplySerials a) (hr : refillOnce st = some (r, st')) : Tracks a evs ret st' := by
  cases hw : st.wire with
  | nil => rw [refillOnce_nil hw] at hr; cases hr; exact h
  | cons m w =>
    rw [refillOnce_cons hw, Option.map_eq_some_iff] at hr
    obtain ⟨st₁, hi, ⟨⟩⟩ := hr
    exact h.insertOrSendError hd hw hi

theorem Tracks.refillAllLoop {w a evs ret st acc errs st'} (h : Tracks a evs (ret ++ acc) st)
    (hd : DistinctReplySerials a) (hw : st.wire = w) (hl : refillAllLoop w st acc = some (errs, st')) :
    Tracks a evs (ret ++ errs) st' := by
  induction w generalizing st acc with
  | nil => cases hl; exact h
  | cons m w ih =>
    rw [refillAllLoop_cons, Option.bind_eq_some_iff] at hl
    obtain ⟨st₁, hc, hl⟩ := hl
    have := h.read hd hw hc [] (owed [m]) rfl
    rw [List.append_assoc] at this
    exact ih (by simpa using this) (classify_wire hc) hl

theorem Tracks.wait {a evs ret st k r st'} (h : Tracks a evs ret st)
    (hd : DistinctReplySerials a) (hw : wait st k = some (r, st')) :
    Tracks a (evs ++ optEvent k r) ret st' :=
  wait_induction k (P := fun st r st' => Tracks a evs ret st → Tracks a (evs ++ optEvent k r) ret st')
    (fun hg h => hg ▸ h.tryGet k) (fun _ _ h => (List.append_nil evs).symm ▸ h)
    (fun _ hmw hi ih h => ih (h.insertOrSendError hd hmw hi)) hw h

theorem Tracks.arrive {a evs ret st} (h : Tracks a evs ret st) (m : Msg) :
    Tracks (a ++ [m]) evs ret { st with wire := st.wire ++ [m] } := by
  obtain ⟨c, rfl, h⟩ := h
  exact ⟨c, List.append_assoc .., h.wire _⟩

theorem Tracks.step {a evs ret st op obs st'} (h : Tracks a evs ret st)
    (hd : DistinctReplySerials (a ++ arrivals [op])) (hs : step st op = some (obs, st')) :
    Tracks (a ++ arrivals [op]) (evs ++ deliveredOf (op, obs)) (ret ++ returnedOf (op, obs)) st' := by
  induction op using Op.byKind with
  | arrive m =>
    cases hs
    simpa [arrivals, deliveredOf, consumerOf, returnedOf] using h.arrive m
  | tryGet k =>
    rw [step_tryGet] at hs
    cases hs
    rw [arrivals_tryGet, deliveredOf_tryGet]
    simpa [returnedOf] using h.tryGet k
  | wait k =>
    obtain ⟨r, hw, rfl⟩ := step_wait_some hs
    rw [arrivals_wait, List.append_nil] at hd ⊢
    rw [deliveredOf_wait, returnedOf_wait, List.append_nil]
    exact h.wait hd hw
  | refillOnce =>
    obtain ⟨r, hr, hdel, hret⟩ := step_refillOnce_some hs
    simp only [arrivals, hdel, hret, List.append_nil] at hd ⊢
    exact h.refillOnce hd hr
  | refillAll =>
    obtain ⟨errs, hr, rfl⟩ := step_refillAll_some hs
    simp only [arrivals, deliveredOf, consumerOf, returnedOf, List.append_nil] at hd ⊢
    exact Tracks.refillAllLoop (acc := []) (by rwa [List.append_nil]) hd rfl hr

theorem Tracks.run {ops a evs ret st tr st'} (h : Tracks a evs ret st)
    (hd : DistinctReplySerials (a ++ arrivals ops)) (hr : run st ops = some (tr, st')) :
    Tracks (a ++ arrivals ops) (evs ++ events tr) (ret ++ returned tr) st' := by
  induction ops generalizing a evs ret st tr with
  | nil =>
    cases hr
    simpa [arrivals, events, returned] using h
  | cons op ops ih =>
    rw [arrivals_cons, ← List.append_assoc] at hd ⊢
    rw [Rpc.run] at hr
    split at hr
    · cases hr
    · next o st₁ hs =>
      split at hr
      · cases hr
      · next tr₁ _ hr₁ =>
        cases hr
        simpa [events, returned, List.append_assoc] using ih (h.step (distinct_prefix hd) hs) hd hr₁

theorem Tracks.init : Tracks [] [] [] State.init := by
  refine ⟨[], rfl, rfl, rfl, ?_, ?_, ?_, ?_, ?_⟩ <;> simp [State.init, respSet, toResponders, owed]

theorem refillAllLoop_wire : ∀ {w : List Msg} {st : State} {acc : List ErrReply} {errs st'},
    st.wire = w → refillAllLoop w st acc = some (errs, st') → st'.wire = []
  | [], _, _, _, _, hw, h => by cases h; exact hw
  | m :: w, st, acc, _, _, _, h => by
    rw [refillAllLoop_cons, Option.bind_eq_some_iff] at h
    obtain ⟨st₁, hc, h⟩ := h
    exact refillAllLoop_wire (classify_wire hc) h

theorem wait_wire {st st' : State} {k : Consumer} {r : Option Msg} (h : wait st k = some (r, st')) :
    st'.wire <:+ st.wire :=
  wait_induction k (P := fun st _ st' => st'.wire <:+ st.wire)
    (fun {st _} _ => (tryGet_frame st k).1 ▸ List.suffix_refl _) (fun _ _ => List.suffix_refl _)
    (fun _ hmw hi ih => hmw ▸ (insertOrSendError_wire hi ▸ ih).trans (List.suffix_cons ..)) h

theorem step_wire {st st' : State} {op : Op} {obs : Obs} (h : step st op = some (obs, st')) :
    st'.wire <:+ st.wire ++ arrivals [op] := by
  induction op using Op.byKind with
  | arrive m => cases h; exact List.suffix_refl _
  | tryGet k =>
    rw [step_tryGet] at h
    cases h
    rw [(tryGet_frame st k).1, arrivals_tryGet, List.append_nil]
    exact List.suffix_refl _
  | wait k =>
    obtain ⟨r, hw, _⟩ := step_wait_some h
    rw [arrivals_wait, List.append_nil]
    exact wait_wire hw
  | refillOnce =>
    obtain ⟨r, hr, _, _⟩ := step_refillOnce_some h
    simp only [arrivals, List.append_nil]
    cases hw : st.wire with
    | nil => rw [refillOnce_nil hw] at hr; cases hr; exact hw ▸ List.suffix_refl _
    | cons m w =>
      rw [refillOnce_cons hw, Option.map_eq_some_iff] at hr
      obtain ⟨st₁, hi, ⟨⟩⟩ := hr
      exact insertOrSendError_wire hi ▸ List.suffix_cons m w
  | refillAll =>
    obtain ⟨errs, hr, _⟩ := step_refillAll_some h
    rw [refillAllLoop_wire rfl hr]
    exact List.nil_suffix

/-- what keeps `response_serial.unwrap()` from panicking: every ACCEPTED reply and error carries
    REPLY_SERIAL (`WellFormed` asks it of the rejected ones too, which are dropped) -/
def RepliesSerialled (l : List Msg) : Prop := ∀ m ∈ l, accResp m = true → m.replySerial ≠ none

theorem insertOrSendError_isSome (st : State) {m : Msg} (hw : accResp m = true → m.replySerial ≠ none) :
    (insertOrSendError st m).isSome = true := by
  rw [insertOrSendError_eq, Option.isSome_map]
  exact classify_isSome st hw

theorem refillOnce_isSome {st : State} (hw : RepliesSerialled st.wire) : (refillOnce st).isSome = true := by
  cases hl : st.wire with
  | nil => rw [refillOnce_nil hl]; rfl
  | cons m w =>
    rw [refillOnce_cons hl, Option.isSome_map]
    exact insertOrSendError_isSome _ (hw m (hl ▸ List.mem_cons_self ..))

theorem refillAllLoop_isSome : ∀ (w : List Msg) (st : State) (acc : List ErrReply),
    RepliesSerialled w → (refillAllLoop w st acc).isSome = true
  | [], _, _, _ => rfl
  | m :: w, st, acc, hw => by
    obtain ⟨hm, hw⟩ := List.forall_mem_cons.mp hw
    obtain ⟨st₁, h⟩ := Option.isSome_iff_exists.mp (classify_isSome { st with wire := w } hm)
    rw [refillAllLoop_cons, h]
    exact refillAllLoop_isSome w st₁ _ hw

theorem wait_isSome (k : Consumer) {st : State} (hw : RepliesSerialled st.wire) : (wait st k).isSome = true := by
  generalize hl : st.wire = l at hw
  induction l generalizing st with
  | nil =>
    cases hg : (tryGet st k).1 with
    | some m => rw [wait_hit hg]; rfl
    | none => rw [wait_dry hg hl]; rfl
  | cons m w ih =>
    cases hg : (tryGet st k).1 with
    | some m' => rw [wait_hit hg]; rfl
    | none =>
      obtain ⟨hm, hw⟩ := List.forall_mem_cons.mp hw
      obtain ⟨st₁, hi⟩ := Option.isSome_iff_exists.mp (insertOrSendError_isSome { st with wire := w } hm)
      rw [wait_read hg hl, hi]
      exact ih (insertOrSendError_wire hi) hw

theorem step_isSome (st : State) (op : Op) (hw : RepliesSerialled st.wire) : (step st op).isSome = true := by
  induction op using Op.byKind with
  | arrive m => rfl
  | tryGet k => rw [step_tryGet]; rfl
  | wait k => rw [step_wait, Option.isSome_map]; exact wait_isSome k hw
  | refillOnce =>
    obtain ⟨⟨r, st₁⟩, hr⟩ := Option.isSome_iff_exists.mp (refillOnce_isSome hw)
    simp only [Rpc.step, hr]
    cases r <;> rfl
  | refillAll =>
    obtain ⟨⟨errs, st₁⟩, hr⟩ := Option.isSome_iff_exists.mp (refillAllLoop_isSome st.wire st [] hw)
    simp only [Rpc.step, Rpc.refillAll, hr]
    rfl

theorem run_isSome : ∀ (ops : List Op) (st : State), RepliesSerialled (st.wire ++ arrivals ops) →
    (run st ops).isSome = true
  | [], _, _ => rfl
  | op :: ops, st, hw => by
    rw [arrivals_cons, ← List.append_assoc] at hw
    obtain ⟨h1, h2⟩ := List.forall_mem_append.mp hw
    obtain ⟨⟨o, st₁⟩, hs⟩ := Option.isSome_iff_exists.mp
      (step_isSome st op fun x hx => h1 x (List.mem_append_left _ hx))
    have := run_isSome ops st₁
      (List.forall_mem_append.mpr ⟨fun x hx => h1 x ((step_wire hs).subset hx), h2⟩)
    simp only [Rpc.run, hs]
    cases hr : Rpc.run st₁ ops with
    | none => simp [hr] at this
    | some q => rfl

end Rustbus.Rpc
