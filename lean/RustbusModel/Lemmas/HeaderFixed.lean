import RustbusModel.Spec.Header
import RustbusModel.Lemmas.WireBytes
/-!
The part of a message the receive loop looks at, as byte computations only: the 12 fixed bytes against the
specification (`decodeFixed_iff`), a header and a message taken apart (`decodeHeader_eq_some`,
`decodeMessage_eq_some`), and the announced frame length `bytesNeeded`, which depends on the first 16 bytes.
Nothing here needs the encoding of the header fields.
-/
namespace Rustbus.Header
open Rustbus.Bytes Rustbus.Wire Rustbus.Spec.Header

theorem slice_append_left (l r : List UInt8) (a b : Nat) (h : a + b ≤ l.length) :
    slice (l ++ r) a b = slice l a b := by
  simp only [slice]
  rw [List.drop_append_of_le_length (Nat.le_trans (Nat.le_add_right a b) h),
    List.take_append_of_le_length (by rw [List.length_drop]; exact Nat.le_sub_of_add_le' h)]

theorem decodeFixed_fixedBytes (fx : Fixed) (rest : List UInt8) (h : fixedOk fx) :
    decodeFixed (fixedBytes fx ++ rest) = some fx := by
  obtain ⟨h1, h2, h3, h4, h5, h6⟩ := h
  obtain ⟨bo, typ, flags, bodyLen, serial⟩ := fx
  simp only at h1 h2 h3 h4 h5 h6
  have s1 : slice (fixedBytes ⟨bo, typ, flags, bodyLen, serial⟩ ++ rest) 4 4 = bytesOf bo 4 bodyLen := by
    have := slice_mid [if bo = .le then 108 else 66, UInt8.ofNat typ, UInt8.ofNat flags, 1]
      (bytesOf bo 4 bodyLen) (bytesOf bo 4 serial ++ rest) 4 4 rfl (by simp)
    rw [← this]; simp [fixedBytes]
  have s2 : slice (fixedBytes ⟨bo, typ, flags, bodyLen, serial⟩ ++ rest) 8 4 = bytesOf bo 4 serial := by
    have := slice_mid ([if bo = .le then 108 else 66, UInt8.ofNat typ, UInt8.ofNat flags, 1] ++
      bytesOf bo 4 bodyLen) (bytesOf bo 4 serial) rest 8 4 (by simp) (by simp)
    rw [← this]; simp [fixedBytes]
  unfold decodeFixed
  rw [if_neg (by simp [fixedBytes]; omega)]
  rw [s1, s2]
  have t1 : (UInt8.ofNat typ).toNat = typ := by
    simp [UInt8.toNat_ofNat']; exact Nat.lt_of_le_of_lt h2 (by decide)
  have t2 : (UInt8.ofNat flags).toNat = flags := by simp [UInt8.toNat_ofNat']; omega
  cases bo <;> simp [fixedBytes, t1, t2, h1, h2, valOf_bytesOf _ _ _ h4, valOf_bytesOf _ _ _ h6] <;> omega

theorem decodeFixed_iff {buf : List UInt8} {fx : Fixed} :
    decodeFixed buf = some fx ↔ (12 ≤ buf.length ∧ fixedOk fx ∧ slice buf 0 12 = fixedBytes fx) := by
  refine ⟨fun h => ?_, fun ⟨_, hok, hs⟩ => by
    rw [← List.take_append_drop 12 buf, show buf.take 12 = fixedBytes fx from hs]
    exact decodeFixed_fixedBytes fx _ hok⟩
  unfold decodeFixed at h
  split at h
  · cases h
  rename_i hlen
  split at h
  case h_2 => cases h
  rename_i e t f ver rest
  have key : slice (e :: t :: f :: ver :: rest) 0 12 =
      [e, t, f, ver] ++ (slice (e :: t :: f :: ver :: rest) 4 4 ++ slice (e :: t :: f :: ver :: rest) 8 4) :=
    slice_add _ 0 4 8 |>.trans (congrArg _ (slice_add _ 4 4 4))
  generalize e :: t :: f :: ver :: rest = buf at *
  cases hbo : (if e = 108 then some ByteOrder.le else if e = 66 then some ByteOrder.be else none) with
  | none => simp only [hbo] at h; cases h
  | some bo =>
    have he : (if bo = ByteOrder.le then (108 : UInt8) else 66) = e := by
      split at hbo
      · cases hbo; exact ‹e = 108›.symm
      · split at hbo
        · cases hbo; exact ‹e = 66›.symm
        · cases hbo
    simp only [hbo, Option.ite_none_right_eq_some, Option.ite_none_left_eq_some, Option.some.injEq] at h
    obtain ⟨ht, rfl, hser, rfl⟩ := h
    have h12 : 12 ≤ buf.length := Nat.le_of_not_lt hlen
    obtain ⟨l4, b4⟩ := valOf_slice bo (show 4 + 4 ≤ buf.length from Nat.le_trans (by decide) h12)
    obtain ⟨l8, b8⟩ := valOf_slice bo (show 8 + 4 ≤ buf.length from h12)
    refine ⟨h12, ⟨ht.1, ht.2, f.toNat_lt, l4, Nat.pos_of_ne_zero hser, l8⟩, ?_⟩
    rw [key, fixedBytes, b4, b8, he, UInt8.ofNat_toNat, UInt8.ofNat_toNat]

theorem decodeFixed_take {buf : List UInt8} {k : Nat} (hk : 12 ≤ k) :
    decodeFixed (buf.take k) = decodeFixed buf := by
  apply Option.ext
  intro fx
  rw [decodeFixed_iff, decodeFixed_iff, slice_take _ _ _ _ hk, List.length_take]
  simp only [Nat.le_min, hk, true_and]

theorem decodeFixed_reads_12 (buf buf' : List UInt8) (h : buf.take 12 = buf'.take 12) :
    decodeFixed buf = decodeFixed buf' := by
  rw [← decodeFixed_take (Nat.le_refl 12) (buf := buf), h, decodeFixed_take (Nat.le_refl 12)]

theorem decodeHeader_eq_some {buf : List UInt8} {fx : Fixed} {fs : List Field} {used : Nat} :
    decodeHeader buf = some (fx, fs, used) ↔
      ∃ len, decodeFixed buf = some fx ∧ readNum fx.bo buf 12 buf.length 4 = some len ∧
        16 + len ≤ buf.length ∧ decodeFields fx.bo buf 16 (16 + len) len = some fs ∧
        fieldsOk fx.typ fs = true ∧ used = 16 + len := by
  constructor
  · intro h
    unfold decodeHeader at h
    split at h
    · cases h
    rename_i fx' hfx
    split at h
    · cases h
    rename_i len hn
    split at h
    case isFalse => cases h
    rename_i hle
    split at h
    · cases h
    rename_i fs' hfs
    split at h
    case isFalse => cases h
    cases h
    exact ⟨len, hfx, hn, hle, hfs, ‹_›, rfl⟩
  · rintro ⟨len, hfx, hn, hle, hfs, hok, rfl⟩
    simp only [decodeHeader, hfx, hn, if_pos hle, hfs, hok, if_true]

theorem decodeMessage_eq_some {buf : List UInt8} {fx : Fixed} {fs : List Field} {body : List UInt8} :
    decodeMessage buf = some (fx, fs, body) ↔
      ∃ used o, decodeHeader buf = some (fx, fs, used) ∧ skipPad buf used buf.length 8 = some o ∧
        (fx.bodyLen = 0 ∧ body = [] ∨ fx.bodyLen ≠ 0 ∧ buf.length - o = fx.bodyLen ∧ body = buf.drop o) := by
  unfold decodeMessage
  constructor
  · intro h
    split at h
    · cases h
    rename_i fx' fs' used hh
    split at h
    · cases h
    rename_i o hp
    split at h
    · cases h; exact ⟨used, o, hh, hp, .inl ⟨‹_›, rfl⟩⟩
    split at h
    · cases h; exact ⟨used, o, hh, hp, .inr ⟨‹_›, ‹_›, rfl⟩⟩
    · cases h
  · rintro ⟨used, o, hh, hp, ⟨hz, rfl⟩ | ⟨hz, hl, rfl⟩⟩
    · simp only [hh, hp, if_pos hz]
    · simp only [hh, hp, if_neg hz, if_pos hl]

theorem bytesNeeded_take {buf : List UInt8} {k : Nat} (hk : 16 ≤ k) :
    bytesNeeded (buf.take k) = bytesNeeded buf := by
  unfold bytesNeeded
  rw [decodeFixed_take (Nat.le_trans (by decide) hk), slice_take _ _ _ _ hk, List.length_take]
  by_cases h : buf.length < 16
  · rw [if_pos h, if_pos (Nat.lt_of_le_of_lt (Nat.min_le_right ..) h)]
  · rw [if_neg h, if_neg (Nat.not_lt.2 (Nat.le_min.2 ⟨hk, Nat.not_lt.1 h⟩))]

theorem bytesNeeded_append (buf more : List UInt8) (h : 16 ≤ buf.length) :
    bytesNeeded (buf ++ more) = bytesNeeded buf := by
  rw [← bytesNeeded_take h (buf := buf ++ more), List.take_left]

theorem bytesNeeded_short (buf : List UInt8) (h : buf.length < 16) : bytesNeeded buf = .bytes 16 := by
  unfold bytesNeeded; rw [if_pos h]

theorem bytesNeeded_invalid {buf : List UInt8} (h16 : 16 ≤ buf.length) (h : decodeFixed buf = none) :
    bytesNeeded buf = .invalid := by
  unfold bytesNeeded; rw [if_neg (Nat.not_lt.2 h16), h]

theorem bytesNeeded_eq {buf : List UInt8} {fx : Fixed} (h16 : 16 ≤ buf.length) (hfx : decodeFixed buf = some fx) :
    bytesNeeded buf =
      (let F := valOf fx.bo (slice buf 12 4)
       let total := 16 + F + padLen 8 (16 + F) + fx.bodyLen
       if F > maxArrayLen ∨ total > maxMessageLen then .tooLong else .bytes total) := by
  simp only [bytesNeeded, if_neg (Nat.not_lt.2 h16), hfx, Nat.add_right_comm 12 _ 4]

theorem bytesNeeded_frame (buf : List UInt8) (fx : Fixed) (fs : List Field) (body : List UInt8)
    (h : decodeMessage buf = some (fx, fs, body)) (hb : fx.bodyLen ≠ 0)
    (hlim : buf.length ≤ maxMessageLen) (hfl : valOf fx.bo (slice buf 12 4) ≤ maxArrayLen) :
    bytesNeeded buf = .bytes buf.length ∧ ∀ k, 16 ≤ k → bytesNeeded (buf.take k) = .bytes buf.length := by
  obtain ⟨used, o, hh, hp, ⟨hz, -⟩ | ⟨-, hbl, -⟩⟩ := decodeMessage_eq_some.1 h
  · exact absurd hz hb
  obtain ⟨len, hfx, hn, hle, -, -, rfl⟩ := decodeHeader_eq_some.1 hh
  obtain ⟨rfl, -⟩ := skipPad_iff.1 hp
  have h16 : 16 ≤ buf.length := Nat.le_trans (Nat.le_add_right 16 len) hle
  rw [readNum, if_pos ⟨Nat.le_trans (by decide) h16, Nat.le_refl _⟩] at hn
  cases hn
  -- the body is not empty, so the subtraction in `hbl` is exact
  have hsum := (Nat.sub_eq_iff_eq_add (Nat.le_of_lt (Nat.lt_of_sub_ne_zero (hbl ▸ hb)))).1 hbl
  rw [Nat.add_comm] at hsum
  have hbuf : bytesNeeded buf = .bytes buf.length := by
    rw [bytesNeeded_eq h16 hfx]
    dsimp only
    rw [← hsum, if_neg fun c => c.elim (Nat.not_lt.2 hfl) (Nat.not_lt.2 hlim)]
  exact ⟨hbuf, fun k hk => (bytesNeeded_take hk).trans hbuf⟩

theorem bytesNeeded_limits (buf : List UInt8) (n : Nat) (h : bytesNeeded buf = .bytes n) :
    n ≤ maxMessageLen ∨ (buf.length < 16 ∧ n = 16) := by
  obtain h16 | h16 := Nat.lt_or_ge buf.length 16
  · rw [bytesNeeded_short _ h16] at h; cases h; exact .inr ⟨h16, rfl⟩
  cases hfx : decodeFixed buf
  · rw [bytesNeeded_invalid h16 hfx] at h; cases h
  rw [bytesNeeded_eq h16 hfx] at h
  dsimp only at h
  split at h
  · cases h
  · rename_i hc
    cases h
    exact .inl (Nat.le_of_not_lt fun c => hc (.inr c))

theorem bytesNeeded_ge16 (buf : List UInt8) (n : Nat) (h : bytesNeeded buf = .bytes n) : 16 ≤ n := by
  obtain h16 | h16 := Nat.lt_or_ge buf.length 16
  · rw [bytesNeeded_short _ h16] at h; cases h; exact Nat.le_refl 16
  cases hfx : decodeFixed buf
  · rw [bytesNeeded_invalid h16 hfx] at h; cases h
  rw [bytesNeeded_eq h16 hfx] at h
  dsimp only at h
  split at h
  · cases h
  · cases h
    exact Nat.le_add_right_of_le (Nat.le_add_right_of_le (Nat.le_add_right 16 _))

end Rustbus.Header

#print axioms Rustbus.Header.decodeFixed_iff
#print axioms Rustbus.Header.bytesNeeded_frame
#print axioms Rustbus.Header.bytesNeeded_limits
