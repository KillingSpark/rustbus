import RustbusModel.Lemmas.Recv
/-!
C18, receive side: a memory invariant of the receive loop (`MemInv`) that holds for ARBITRARY peers (any byte stream,
well-formed or not, any announced lengths), all histories, all kernel answers; and what is buffered never exceeds
what arrived (`run_mem`).
-/
namespace Rustbus.Limits
open Rustbus.Header Rustbus.Recv

theorem cap_mono {c l a g : Nat} (h : c ≤ max 16 (l + g)) (hl : l ≤ a) : c ≤ max 16 (a + g) :=
  Nat.le_trans h (Nat.max_le.2 ⟨Nat.le_max_left .., Nat.le_trans (Nat.add_le_add_right hl g) (Nat.le_max_right ..)⟩)

/-- the reservation fits what is buffered plus one growth step, the protocol maximum, and what the
    buffered header announces. `max 16`: below 16 buffered bytes `bytesNeeded` announces 16 (`bytesNeeded_short`), so
    the first reservation is 16 whatever the frame is -/
structure MemInv (st : State) : Prop where
  fits : st.buf.length ≤ st.cap
  growth : st.cap ≤ max 16 (st.buf.length + maxGrowth)
  limit : st.cap ≤ maxMessageLen
  announced : ∀ n, bytesNeeded st.buf = .bytes n → st.cap ≤ max 16 n

/-- ALL bytes that arrive during a call. `Recv.arrivals` stops at the first kernel answer (it describes one `recvmsg`);
    `readWhole` consumes several answers per call, so the bound on memory has to count on (`arrivals_le_evArr`) -/
def evArr : List Ev → Nat
  | [] => 0
  | .arrive n :: r => n + evArr r
  | _ :: r => evArr r

/-- bytes that arrive during a history (between the calls and during them, `evArr`): an upper bound of what the
    client can have received. Not `Recv.arrivals`, which counts inside one call, up to the first kernel answer -/
def arrivals : List Action → Nat
  | [] => 0
  | .arrive n :: r => n + arrivals r
  | .call _ evs :: r => evArr evs + arrivals r

theorem memInv_empty : MemInv State.empty := by
  refine ⟨Nat.le_refl _, by simp [State.empty], by simp [State.empty, maxMessageLen], ?_⟩
  intro n _; simp [State.empty]

theorem reserve_memInv {st : State} {n : Nat} (hI : MemInv st) (hn : bytesNeeded st.buf = .bytes n) :
    MemInv (reserve st n) := by
  have hm : n ≤ maxMessageLen := by
    rcases bytesNeeded_limits st.buf n hn with h | ⟨_, rfl⟩
    · exact h
    · decide
  refine ⟨Nat.le_trans hI.fits (Nat.le_max_left ..),
    Nat.max_le.2 ⟨hI.growth, Nat.le_trans (Nat.min_le_right ..) (Nat.le_max_right ..)⟩,
    Nat.max_le.2 ⟨hI.limit, Nat.le_trans (Nat.min_le_left ..) hm⟩, fun n' hn' => ?_⟩
  cases hn.symm.trans hn'
  exact Nat.max_le.2 ⟨hI.announced n hn, Nat.le_trans (Nat.min_le_left ..) (Nat.le_max_right ..)⟩

theorem read_memInv {st : State} {cs : List (UInt8 × List Nat)} (hI : MemInv st)
    (hb : st.buf.length + cs.length ≤ st.cap) : MemInv (st.read cs) := by
  refine ⟨st.read_buf_length cs ▸ hb, ?_, hI.limit, fun n' hn' => ?_⟩
  · exact st.read_buf_length cs ▸ cap_mono hI.growth (Nat.le_add_right ..)
  · change bytesNeeded (st.buf ++ _) = _ at hn'
    by_cases h16 : 16 ≤ st.buf.length
    · rw [bytesNeeded_append _ _ h16] at hn'
      exact hI.announced n' hn'
    · exact Nat.le_trans (hI.announced 16 (bytesNeeded_short st.buf (by omega))) (Nat.le_max_left 16 n')

/-- the invariant, with `B` bounding the bytes buffered or still queued in the socket: no call raises that sum,
    only arrivals do. `B` is not computed from the state: the caller hands in a bound (`mem_empty`: what is queued at
    the start) and `Mem.arrive` raises it by what arrives -/
def Mem (B : Nat) (x : State × World) : Prop := MemInv x.1 ∧ x.1.buf.length + x.2.avail ≤ B

theorem Mem.mono {B B' : Nat} {x : State × World} (h : Mem B x) (hb : B ≤ B') : Mem B' x :=
  ⟨h.1, Nat.le_trans h.2 hb⟩

theorem Mem.arrive {B : Nat} {st : State} {w : World} (h : Mem B (st, w)) (m : Nat) :
    Mem (B + m) (st, w.arrive m) :=
  ⟨h.1, (Nat.add_assoc ..).symm ▸ Nat.add_le_add_right h.2 m⟩

theorem mem_empty (w : World) : Mem w.avail (State.empty, w) := ⟨memInv_empty, Nat.le_of_eq (Nat.zero_add _)⟩

theorem Mem.buf_le {B : Nat} {x : State × World} (h : Mem B x) : x.1.buf.length ≤ B :=
  Nat.le_trans (Nat.le_add_right ..) h.2

theorem Mem.cap_le {B : Nat} {x : State × World} (h : Mem B x) : x.1.cap ≤ max 16 (B + maxGrowth) :=
  cap_mono h.1.growth h.buf_le

variable {B : Nat} {st : State} {w : World}

theorem refill_mem {n : Nat} (k : Nat) (h : Mem B (st, w)) (hn : bytesNeeded st.buf = .bytes n) :
    Mem B (refill st w n k).2 := by
  by_cases hf : n ≤ st.buf.length
  · rw [refill_full hf]; exact h
  · have hI := reserve_memInv h.1 hn
    rw [refill_short (Nat.not_le.mp hf)]
    split
    · exact ⟨hI, h.2⟩
    · -- `g` bytes are moved from the socket to the buffer: at most what is queued, and what fits the reservation
      have hg : granted w (request st n) k ≤ min w.avail w.rest.length :=
        Nat.le_trans (Nat.min_le_right ..) (Nat.min_le_right ..)
      have hl : (w.rest.take (granted w (request st n) k)).length = granted w (request st n) k :=
        List.length_take.trans (Nat.min_eq_left (Nat.le_trans hg (Nat.min_le_right ..)))
      refine ⟨read_memInv hI ?_, ?_⟩
      · rw [hl]; exact Nat.add_le_of_le_sub' hI.fits (granted_le_req ..)
      · show ((reserve st n).read _).buf.length + (min w.avail w.rest.length - _) ≤ B
        rw [State.read_buf_length, hl, Nat.add_assoc, Nat.add_sub_cancel' hg]
        exact Nat.le_trans (Nat.add_le_add_left (Nat.min_le_left ..) _) h.2

theorem arrivals_le_evArr (evs : List Ev) : Recv.arrivals evs ≤ evArr evs := by
  induction evs with
  | nil => exact Nat.le_refl _
  | cons e evs ih => cases e <;> simp only [Recv.arrivals, evArr] <;> omega

theorem recvWith_mem {n : Nat} (evs : List Ev) (h : Mem B (st, w)) (hn : bytesNeeded st.buf = .bytes n) :
    Mem (B + evArr evs) (recvWith st w n evs).2 := by
  rw [recvWith_eq]
  exact refill_mem _ ((h.arrive _).mono (Nat.add_le_add_left (arrivals_le_evArr evs) B)) hn

theorem readOnce_mem (evs : List Ev) (h : Mem B (st, w)) : Mem (B + evArr evs) (readOnce st w evs).2 := by
  unfold readOnce
  cases hb : bytesNeeded st.buf with
  | bytes n => exact recvWith_mem evs h hb
  | tooLong | invalid => exact h.mono (Nat.le_add_right ..)

theorem readMore_mem (evs : List Ev) (h : Mem B (st, w)) : Mem (B + evArr evs) (readMore st w evs).2 := by
  unfold readMore
  cases check st with
  | whole | err => exact h.mono (Nat.le_add_right ..)
  | need n => exact readOnce_mem evs h

theorem readWhole_mem (evs : List Ev) (h : Mem B (st, w)) : Mem (B + evArr evs) (readWhole st w evs).2 := by
  -- `P`: what is buffered, what is queued and what the events still to come will bring stay together within the
  -- call's budget `B + evArr evs`; an arrival moves bytes from the third summand to the second, a `refill` from the
  -- second to the first
  refine readWhole_rule
    (P := fun evs' st' w' => MemInv st' ∧ st'.buf.length + w'.avail + evArr evs' ≤ B + evArr evs)
    (Q := fun x => Mem (B + evArr evs) x.2) ?_ ?_ ?_ ?_ ?_ evs st w ⟨h.1, Nat.add_le_add_right h.2 _⟩
  · intro a evs' st' w' ⟨hI, hb⟩
    refine ⟨hI, ?_⟩
    show st'.buf.length + (w'.avail + a) + evArr evs' ≤ _
    rw [← Nat.add_assoc, Nat.add_assoc]
    exact hb
  · intro k evs' st' w' n hc ⟨hI, hb⟩ _
    have hr := refill_mem (w := w') k ⟨hI, Nat.le_refl _⟩ (check_need hc).2
    exact ⟨hr.1, Nat.le_trans (Nat.add_le_add_right hr.2 _) hb⟩
  · exact fun _ _ _ _ ⟨hI, hb⟩ => ⟨hI, Nat.le_trans (Nat.le_add_right ..) hb⟩
  · exact fun _ _ _ _ _ ⟨hI, hb⟩ => ⟨hI, Nat.le_trans (Nat.le_add_right ..) hb⟩
  · exact fun _ _ _ n hc ⟨hI, hb⟩ => ⟨reserve_memInv hI (check_need hc).2, Nat.le_trans (Nat.le_add_right ..) hb⟩

theorem getNext_mem (evs : List Ev) (h : Mem B (st, w)) : Mem (B + evArr evs) (getNext st w evs).2 := by
  have hr := readWhole_mem evs h
  unfold getNext
  split
  · rename_i hx
    rw [hx] at hr
    have he : Mem (B + evArr evs) (State.empty, _) :=
      ⟨memInv_empty, Nat.le_trans (Nat.add_le_add_right (Nat.zero_le _) _) hr.2⟩
    split
    · exact hr
    · split <;> exact he
  · exact hr

theorem step_mem (c : Call) (evs : List Ev) (h : Mem B (st, w)) : Mem (B + evArr evs) (step c st w evs).2 := by
  cases c with
  | readOnce => exact readOnce_mem evs h
  | readMore => exact readMore_mem evs h
  | getNext => exact getNext_mem evs h

theorem run_mem (acts : List Action) (h : Mem B (st, w)) : Mem (B + arrivals acts) (run st w acts).2 := by
  induction acts generalizing B st w with
  | nil => exact h
  | cons a acts ih =>
    cases a with
    | arrive m => exact Nat.add_assoc .. ▸ ih (h.arrive m)
    | call c evs => exact Nat.add_assoc .. ▸ ih (step_mem c evs h)

end Rustbus.Limits
