import RustbusModel.Model.Limits
import RustbusModel.Lemmas.Wire
/-!
C18, decode side: the array limit is checked on the length word alone, a rejected component rejects the whole
value, a value nested deeper than the budget is rejected, and the size of an accepted value (nodes, string bytes)
is bounded by the bytes it occupies (`enc_size_all`, `dec_size`).
-/
namespace Rustbus.Limits
open Rustbus.Bytes Rustbus.Wire Rustbus.Spec.Wire

/-- the position of the length word of an array/dict that starts at `off` -/
def lenPos (off : Nat) : Nat := off + padLen 4 off

theorem dec_array_big (bo : ByteOrder) (buf : List UInt8) (off : Nat) (e : Ty)
    (hbig : maxArrayLen < valOf bo (slice buf (lenPos off) 4)) (nfds : Option Nat) (d lim : Nat) :
    dec bo buf nfds d (.array e) off lim = none := by
  cases d with
  | zero => exact dec_zero fun _ => nofun
  | succ d =>
    rw [dec_array]
    cases hs : skipPad buf off lim 4 with
    | none => rfl
    | some o =>
      obtain ⟨rfl, _⟩ := skipPad_iff.1 hs
      dsimp only
      cases hr : readNum bo buf (off + padLen 4 off) lim 4 with
      | none => rfl
      | some len =>
        unfold readNum at hr
        split at hr <;> cases hr
        exact if_neg (Nat.not_le.2 hbig)

theorem dec_dict_big (bo : ByteOrder) (buf : List UInt8) (off : Nat) (k : Base) (vt : Ty)
    (hbig : maxArrayLen < valOf bo (slice buf (lenPos off) 4)) (nfds : Option Nat) (d lim : Nat) :
    dec bo buf nfds d (.dict k vt) off lim = none := by
  match d with
  | 0 => exact dec_zero fun _ => nofun
  | 1 => exact dec_dict_one
  | d + 2 => rw [dec_dict_eq_array]; exact dec_array_big bo buf off _ hbig nfds _ lim

theorem dec_variant_inner_none (bo : ByteOrder) (buf : List UInt8) (nfds : Option Nat) (d lim off : Nat)
    (h : ∀ t len, readNum bo buf off lim 1 = some len →
      Sig.parseDescription (latin1 (slice buf (off + 1) len)) = some [t] →
      dec bo buf nfds d t (off + len + 2) lim = none) :
    dec bo buf nfds (d + 1) .variant off lim = none := by
  rw [dec_variant]
  cases hr : readNum bo buf off lim 1 with
  | none => rfl
  | some len =>
    dsimp only
    split
    · split
      · split
        · rename_i t hp
          rw [h t len hr hp]
        · rfl
      · rfl
    · rfl

theorem decFields_none_of_field {bo : ByteOrder} {buf : List UInt8} {nfds : Option Nat} {d lim : Nat}
    {pre : List Ty} {t : Ty} (post : List Ty) {off : Nat} {vs : List Val} {o1 : Nat}
    (hpre : decFields bo buf nfds d pre off lim = some (vs, o1))
    (h : dec bo buf nfds d t o1 lim = none) :
    decFields bo buf nfds d (pre ++ t :: post) off lim = none := by
  induction pre generalizing off vs with
  | nil =>
    rw [decFields_nil] at hpre
    cases hpre
    rw [List.nil_append, decFields_cons, h]
  | cons p ps ih =>
    rw [decFields_cons] at hpre
    rw [List.cons_append, decFields_cons]
    cases hd : dec bo buf nfds d p off lim with
    | none => rfl
    | some r =>
      rw [hd] at hpre
      dsimp only at hpre ⊢
      cases hr : decFields bo buf nfds d ps r.2 lim with
      | none => rw [hr] at hpre; cases hpre
      | some r2 =>
        rw [hr] at hpre
        cases hpre
        rw [ih hr]

theorem decList_none_of_head (bo : ByteOrder) (buf : List UInt8) (nfds : Option Nat) (d lim : Nat) (e : Ty)
    (off fuel : Nat) (hne : off ≠ lim) (h : dec bo buf nfds d e off lim = none) :
    decList bo buf nfds d e off lim fuel = none := by
  cases fuel with
  | zero => rw [decList_zero, if_neg hne]
  | succ fuel => rw [decList_succ, if_neg hne, h]

theorem decList_cons_of_head (bo : ByteOrder) (buf : List UInt8) (nfds : Option Nat) (d lim : Nat) (e : Ty)
    (off fuel : Nat) (v : Val) (o' : Nat) (hne : off ≠ lim)
    (h : dec bo buf nfds d e off lim = some (v, o')) :
    decList bo buf nfds d e off lim (fuel + 1) = (decList bo buf nfds d e o' lim fuel).map (v :: ·) := by
  rw [decList_succ, if_neg hne, h]
  dsimp only
  cases hr : decList bo buf nfds d e o' lim fuel <;> rfl

theorem decEntries_none_of_value (bo : ByteOrder) (buf : List UInt8) (nfds : Option Nat) (d lim : Nat)
    (k : Base) (vt : Ty) (off fuel o o1 : Nat) (kv : Val) (hne : off ≠ lim)
    (hp : skipPad buf off lim 8 = some o) (hk : decBase bo buf nfds k o lim = some (kv, o1))
    (h : dec bo buf nfds d vt o1 lim = none) :
    decEntries bo buf nfds d k vt off lim fuel = none := by
  cases fuel with
  | zero => rw [decEntries_zero, if_neg hne]
  | succ fuel => rw [decEntries_succ, if_neg hne, hp]; dsimp only; rw [hk]; dsimp only; rw [h]

theorem dec_struct_none_of_field (bo : ByteOrder) (buf : List UInt8) (nfds : Option Nat) (d lim : Nat)
    (pre : List Ty) (t : Ty) (post : List Ty) (off o : Nat) (vs : List Val) (o1 : Nat)
    (hp : skipPad buf off lim 8 = some o)
    (hpre : decFields bo buf nfds d pre o lim = some (vs, o1))
    (h : dec bo buf nfds d t o1 lim = none) :
    dec bo buf nfds (d + 1) (.struct (pre ++ t :: post)) off lim = none := by
  rw [dec_struct]
  split
  · rfl
  · rw [hp]; dsimp only
    rw [decFields_none_of_field post hpre h]

theorem dec_none_of_depth (bo : ByteOrder) (t : Ty) (v : Val) (pre bs suf : List UInt8)
    (h : enc bo pre.length t v = some bs) (nfds : Option Nat) (d lim : Nat) (hd : d < depthOf t v)
    (hl : pre.length + bs.length ≤ lim) (hl2 : lim ≤ pre.length + bs.length + suf.length) :
    dec bo (pre ++ (bs ++ suf)) nfds d t pre.length lim = none := by
  cases hdec : dec bo (pre ++ (bs ++ suf)) nfds d t pre.length lim with
  | none => rfl
  | some r =>
    obtain ⟨v', o'⟩ := r
    obtain ⟨-, h3, h4, -, h5, -⟩ := enc_dec hdec
    -- replay without descriptor check and with a budget that covers `v`
    have h1 := dec_replay (nfds' := none) (d' := depthOf t v) hdec rfl h3 h4
      (fun hle => Nat.le_trans hle (Nat.le_of_lt hd)) rfl
    rw [dec_enc bo t v pre bs suf none (depthOf t v) lim h (Nat.le_refl _) (by simp [fdsOk]) hl hl2] at h1
    cases h1
    omega

theorem size_combine {a b x y z m n : Nat} (ha : a ≤ (x + 1) * m) (hb : b ≤ (y + 1) * n)
    (hx : x ≤ z) (hy : y ≤ z) : a + b ≤ (z + 1) * (m + n) := by
  have h1 : (x + 1) * m ≤ (z + 1) * m := Nat.mul_le_mul_right m (by omega)
  have h2 : (y + 1) * n ≤ (z + 1) * n := Nat.mul_le_mul_right n (by omega)
  rw [Nat.mul_add]
  omega

/-- one more node around `a` is paid for by the one more level, which counts every byte once more -/
theorem size_level {a s x m n : Nat} (ha : a ≤ (x + 1) * m) (hs : s ≤ m) (hm : m ≤ n) (hpos : 1 ≤ n) :
    1 + a ≤ (1 + x + 1) * n ∧ s ≤ n ∧ 1 ≤ n := by
  have h1 : (x + 1) * m ≤ (x + 1) * n := Nat.mul_le_mul_left _ hm
  have h2 : (1 + x + 1) * n = (x + 1) * n + n := by
    rw [show 1 + x + 1 = (x + 1) + 1 by omega, Nat.add_mul, Nat.one_mul]
  omega

theorem encBase_size (bo : ByteOrder) (off : Nat) (b : Base) (v : Val) (bs : List UInt8)
    (h : encBase bo off b v = some bs) : nodes v = 1 ∧ strBytes v ≤ bs.length := by
  rcases encBase_eq_some.1 h with ⟨k, n, _, rfl, _, rfl⟩ | ⟨s, _, rfl, _, _, rfl⟩
  · exact ⟨rfl, Nat.zero_le _⟩
  · exact ⟨rfl, by simp only [strBytes, List.length_append, List.length_cons]; omega⟩

theorem enc_size_all (bo : ByteOrder) :
    (∀ t v, ∀ off bs, enc bo off t v = some bs →
      nodes v ≤ (depthOf t v + 1) * bs.length ∧ strBytes v ≤ bs.length ∧ 1 ≤ bs.length) ∧
    (∀ e vs, ∀ off bs, encList bo off e vs = some bs →
      nodesList vs ≤ (depthOfList e vs + 1) * bs.length ∧ strBytesList vs ≤ bs.length) ∧
    (∀ fs vs, ∀ off bs, encFields bo off fs vs = some bs →
      nodesList vs ≤ (depthOfFields fs vs + 1) * bs.length ∧ strBytesList vs ≤ bs.length ∧
      (fs ≠ [] → 1 ≤ bs.length)) := by
  apply enc_some_induct bo
  case base =>
    intro off b v bs h
    obtain ⟨h1, h2⟩ := encBase_size bo off b v bs h
    have h3 := enc_pos (show enc bo off (.base b) v = some bs by rw [enc]; exact h)
    refine ⟨?_, h2, h3⟩
    rw [h1]; simp only [depthOf]; omega
  case arr =>
    intro off e vs body _ ⟨i1, i2⟩
    simp only [nodes, strBytes, depthOf, List.length_append, zeros_length, bytesOf_length]
    exact size_level i1 i2 (by omega) (by omega)
  case dict =>
    intro off k vt es bs hes ⟨i1, i2, i3⟩
    refine ⟨Nat.le_trans i1 (Nat.mul_le_mul_right _ ?_), i2, i3⟩
    -- the hypothesis speaks of the entries as an array of `(k, v)` structs; read that way they are at most one level
    -- deeper than as entries (`entries_as_structs`), and a dict counts two levels
    have := ((entries_as_structs (k := k) (vt := vt) hes).1 _).1 (Nat.le_refl _)
    simp only [depthOf]; omega
  case struct =>
    intro off fs vs body hne ⟨i1, i2, i3⟩
    have := i3 hne
    simp only [nodes, strBytes, depthOf, List.length_append, zeros_length]
    exact size_level i1 i2 (by omega) (by omega)
  case var =>
    intro off t v body _ ⟨i1, i2, i3⟩
    simp only [nodes, strBytes, depthOf, List.length_append, List.length_cons]
    exact size_level i1 i2 (by omega) (by omega)
  case Lnil => intro off e; exact ⟨Nat.zero_le _, Nat.zero_le _⟩
  case Lcons =>
    intro off e v vs b r ⟨a1, a2, _⟩ ⟨b1, b2⟩
    simp only [nodesList, strBytesList, depthOfList, List.length_append]
    exact ⟨size_combine a1 b1 (Nat.le_max_left ..) (Nat.le_max_right ..), Nat.add_le_add a2 b2⟩
  case Fnil => intro off; exact ⟨Nat.zero_le _, Nat.zero_le _, fun h => absurd rfl h⟩
  case Fcons =>
    intro off t ts v vs b r ⟨a1, a2, a3⟩ ⟨b1, b2, _⟩
    simp only [nodesList, strBytesList, depthOfFields, List.length_append]
    exact ⟨size_combine a1 b1 (Nat.le_max_left ..) (Nat.le_max_right ..), Nat.add_le_add a2 b2,
      fun _ => Nat.le_trans a3 (Nat.le_add_right ..)⟩

theorem dec_size (bo : ByteOrder) (buf : List UInt8) (nfds : Option Nat) (d : Nat) (t : Ty)
    (off lim : Nat) (v : Val) (o' : Nat) (h : dec bo buf nfds d t off lim = some (v, o')) :
    nodes v ≤ (d + 1) * (o' - off) ∧ strBytes v ≤ o' - off ∧ off < o' := by
  obtain ⟨h1, h2, h3, h4, h5, _⟩ := enc_dec h
  obtain ⟨a, b, _⟩ := (enc_size_all bo).1 t v off _ h4
  rw [slice_length _ _ _ (by omega)] at a b
  exact ⟨Nat.le_trans a (Nat.mul_le_mul_right _ (by omega)), b, h1⟩

end Rustbus.Limits
