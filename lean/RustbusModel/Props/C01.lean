import RustbusModel.Lemmas.Wire
/-!
C01 — Typed values survive marshal→unmarshal unchanged, for every type and position.

`enc` is what the marshallers emit (tied to the code by the correspondence run, C02), `dec` what the
unmarshallers do. The theorems hold for every type of the algebra (arbitrary nesting of arrays, dicts,
structs, variants), both byte orders, every prefix (hence every start offset and every alignment phase)
and every suffix (hence whatever follows is untouched), and for every value that is nested at most 64
container levels deep (`depthOf … ≤ maxDepth`) and whose descriptor indices are below the number of attached
descriptors (`fdsBelow`). Neither condition can be dropped: `enc` has no depth limit (the typed marshallers
have none either), the decoders refuse the 65th level.
-/
namespace Rustbus.Wire
open Rustbus Rustbus.Bytes Rustbus.Spec.Wire

/-- Round trip: a value that was written is read back as the same value, and reading consumes exactly the
    bytes that writing produced. -/
theorem roundtrip (bo : ByteOrder) (t : Ty) (v : Val) (pre bs suf : List UInt8) (nfds : Nat)
    (h : enc bo pre.length t v = some bs)
    (hd : depthOf t v ≤ maxDepth) (hfd : fdsBelow nfds t v = true) :
    unmarshal bo (pre ++ (bs ++ suf)) nfds pre.length t = some (v, pre.length + bs.length) :=
  dec_iff.2 ⟨bs, h, hasAt_mid pre bs suf, rfl, (hasAt_mid pre bs suf).1, Nat.le_refl _, hd, fdsOk_iff.1 hfd⟩

/-- The same through raw validation: it accepts what was written and reports exactly its length. -/
theorem validate_roundtrip (bo : ByteOrder) (t : Ty) (v : Val) (pre bs suf : List UInt8)
    (h : enc bo pre.length t v = some bs) (hd : depthOf t v ≤ maxDepth) :
    validate bo (pre ++ (bs ++ suf)) pre.length t = some bs.length := by
  unfold validate
  rw [dec_iff.2 ⟨bs, h, hasAt_mid pre bs suf, rfl, (hasAt_mid pre bs suf).1, Nat.le_refl _, hd,
    fun _ hc => by cases hc⟩]
  exact congrArg some (Nat.add_sub_cancel_left ..)

/-- What follows a written value does not change how it is read. -/
theorem suffix_irrelevant (bo : ByteOrder) (t : Ty) (v : Val) (pre bs suf suf' : List UInt8) (nfds : Nat)
    (h : enc bo pre.length t v = some bs) (hd : depthOf t v ≤ maxDepth) (hfd : fdsBelow nfds t v = true) :
    unmarshal bo (pre ++ (bs ++ suf)) nfds pre.length t = unmarshal bo (pre ++ (bs ++ suf')) nfds pre.length t := by
  rw [roundtrip bo t v pre bs suf nfds h hd hfd, roundtrip bo t v pre bs suf' nfds h hd hfd]

/-- A whole body: pushing the values one after the other (each at the offset where the previous one
    ended) and then getting them in order with their types returns exactly the values, and all bytes
    are used (each value under the conditions of `roundtrip`). -/
theorem body_roundtrip (bo : ByteOrder) (ts : List Ty) (vs : List Val) (bs : List UInt8) (nfds : Nat)
    (h : encFields bo 0 ts vs = some bs)
    (hall : ∀ p ∈ ts.zip vs, depthOf p.1 p.2 ≤ maxDepth ∧ fdsBelow nfds p.1 p.2 = true) :
    decBody bo bs (some nfds) ts 0 = some vs :=
  decBody_encFields bo (some nfds) ts vs [] bs h hall

-- non-vacuity: `aat` (array of arrays of u64) at phase 4, big endian, with a prefix and a suffix
def exTy : Ty := .array (.array (.base .u64))
def exVal : Val := .arr [.arr [.num 1, .num 2], .arr [.num 3]]
def exBytes : List UInt8 :=
  [0, 0, 0, 40, 0, 0, 0, 16, 0, 0, 0, 0, 0, 0, 0, 0, 0, 0, 0, 1, 0, 0, 0, 0, 0, 0, 0, 2,
   0, 0, 0, 8, 0, 0, 0, 0, 0, 0, 0, 0, 0, 0, 0, 3]
example : enc .be 4 exTy exVal = some exBytes := by decide +kernel
example : unmarshal .be ([9, 9, 9, 9] ++ (exBytes ++ [0x5a])) 0 4 exTy = some (exVal, 4 + exBytes.length) :=
  roundtrip .be exTy exVal [9, 9, 9, 9] exBytes [0x5a] 0 (by decide +kernel) (by decide +kernel) (by decide +kernel)

end Rustbus.Wire

#print axioms Rustbus.Wire.roundtrip
#print axioms Rustbus.Wire.validate_roundtrip
#print axioms Rustbus.Wire.suffix_irrelevant
#print axioms Rustbus.Wire.body_roundtrip
