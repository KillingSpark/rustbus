import RustbusModel.Lemmas.AuthHs
/-!
C17 — Connection setup: address resolution and auth follow the protocol and terminate.

Inputs that belong to the environment and are universally quantified in every theorem:
`ex` (does the file exist), `uid`, `wok` (does the k-th write succeed) and the `script`: the list of
results of the successive `stream.read` calls (`chunk bytes` / `eof` / `err`). When the script is exhausted
the next read is treated as `eof`. A peer that neither answers nor closes is NOT covered (the real client
then blocks forever, `auth.rs` has no timeout); the property's list of server behaviours does not include it.
-/
namespace Rustbus.Auth

/-- Complete characterisation of `parse_dbus_addr_str` by the declarative relation `Resolves`.
    Totality (every string gets a result, no panic) is by construction of `parseAddr`. -/
theorem addr_resolves_iff (ex : List Char → Bool) (s : List Char) (r : AddrResult) :
    parseAddr ex s = r ↔ Resolves ex s r :=
  parseAddr_iff_resolves

/-- `unix:` + any `key=value` pairs with other keys + `path=p` + anything (in particular further `path=` /
    `abstract=` keys: the FIRST one wins) resolves to exactly `p`, provided `p` exists (and is a name
    `UnixAddr::new` accepts: no NUL, shorter than 108 bytes). -/
theorem addr_unix_ok (ex : List Char → Bool) (pre : List (List Char × List Char)) (p : List Char)
    (post : List (List Char))
    (hpre : ∀ kv ∈ pre, kv.1 ≠ kPath ∧ kv.1 ≠ kAbstract ∧ '=' ∉ kv.1 ∧ ',' ∉ kv.1 ∧ ',' ∉ kv.2)
    (hp : ',' ∉ p) (hpost : ∀ x ∈ post, ',' ∉ x) (hex : ex p = true) (hok : unixAddrNewOk p = true) :
    parseAddr ex (kUnix ++ ':' :: joinWith ',' (pre.map renderPair ++ (kPath ++ '=' :: p) :: post))
      = .path p :=
  parseAddr_items ex pre post hpre
    (fun h => (List.mem_append.mp h).elim (by decide) fun h => (List.mem_cons.mp h).elim nofun hp)
    hpost (.path p hex hok)

/-- the same for `abstract=a` (names shorter than 108 bytes) -/
theorem addr_unix_abstract_ok (ex : List Char → Bool) (pre : List (List Char × List Char))
    (a : List Char) (post : List (List Char))
    (hpre : ∀ kv ∈ pre, kv.1 ≠ kPath ∧ kv.1 ≠ kAbstract ∧ '=' ∉ kv.1 ∧ ',' ∉ kv.1 ∧ ',' ∉ kv.2)
    (ha : ',' ∉ a) (hpost : ∀ x ∈ post, ',' ∉ x) (hok : unixAddrAbstractOk a = true) :
    parseAddr ex (kUnix ++ ':' :: joinWith ',' (pre.map renderPair ++ (kAbstract ++ '=' :: a) :: post))
      = .abstract a :=
  parseAddr_items ex pre post hpre
    (fun h => (List.mem_append.mp h).elim (by decide) fun h => (List.mem_cons.mp h).elim nofun ha)
    hpost (.abstract a hok)

/-- The result is the socket path `p` for the strings of that shape and for no others. -/
theorem addr_path_iff (ex : List Char → Bool) (s p : List Char) :
    parseAddr ex s = .path p ↔
      ∃ pre post, s = kUnix ++ ':' :: joinWith ',' (pre ++ (kPath ++ '=' :: p) :: post) ∧
        (∀ x ∈ pre, Skipped x) ∧ (∀ x ∈ pre ++ (kPath ++ '=' :: p) :: post, ',' ∉ x) ∧
        ex p = true ∧ unixAddrNewOk p = true := by
  rw [addr_resolves_iff, resolves_decided_iff (r := .path p) nofun nofun]
  constructor
  · rintro ⟨pre, q, post, rfl, h1, h2, hd⟩
    cases hd with
    | path _ he ho => exact ⟨pre, post, rfl, h1, h2, he, ho⟩
  · rintro ⟨pre, post, rfl, h1, h2, he, ho⟩
    exact ⟨pre, _, post, rfl, h1, h2, .path p he ho⟩

/-- ditto for an abstract socket name -/
theorem addr_abstract_iff (ex : List Char → Bool) (s a : List Char) :
    parseAddr ex s = .abstract a ↔
      ∃ pre post, s = kUnix ++ ':' :: joinWith ',' (pre ++ (kAbstract ++ '=' :: a) :: post) ∧
        (∀ x ∈ pre, Skipped x) ∧ (∀ x ∈ pre ++ (kAbstract ++ '=' :: a) :: post, ',' ∉ x) ∧
        unixAddrAbstractOk a = true := by
  rw [addr_resolves_iff, resolves_decided_iff (r := .abstract a) nofun nofun]
  constructor
  · rintro ⟨pre, q, post, rfl, h1, h2, hd⟩
    cases hd with
    | abstract _ ho => exact ⟨pre, post, rfl, h1, h2, ho⟩
  · rintro ⟨pre, post, rfl, h1, h2, ho⟩
    exact ⟨pre, _, post, rfl, h1, h2, .abstract a ho⟩

/-- Every other string yields an error: no ':' → NoAddressFound (and only then); a transport other than
    `unix` → AddressTypeNotSupported; a successful result implies the string starts with `unix:`. -/
theorem addr_errors (ex : List Char → Bool) (s : List Char) :
    (parseAddr ex s = .errNoAddress ↔ ':' ∉ s) ∧
    (∀ sys rest, s = sys ++ ':' :: rest → ':' ∉ sys → sys ≠ kUnix → parseAddr ex s = .errNotSupported) ∧
    (∀ r, parseAddr ex s = r → (∃ p, r = .path p) ∨ (∃ a, r = .abstract a) →
      ∃ rest, s = kUnix ++ ':' :: rest) := by
  refine ⟨?_, ?_, ?_⟩
  · rw [addr_resolves_iff]
    constructor
    · intro h
      cases h with
      | noColon _ h => exact h
      | decided _ _ _ _ _ _ hd => cases hd
    · exact .noColon s
  · rintro sys rest rfl h1 h2
    exact (addr_resolves_iff ex _ _).mpr (.otherSystem sys rest h1 h2)
  · rintro r h (⟨p, rfl⟩ | ⟨a, rfl⟩)
    · obtain ⟨pre, post, rfl, -⟩ := (addr_path_iff ex s p).mp h
      exact ⟨_, rfl⟩
    · obtain ⟨pre, post, rfl, -⟩ := (addr_abstract_iff ex s a).mp h
      exact ⟨_, rfl⟩

/-- `get_session_bus_path`: an unset (or non-unicode) variable is NoAddressFound, otherwise the parser decides -/
theorem session_bus_path (ex : List Char → Bool) :
    sessionBusPath ex none = .errNoAddress ∧ ∀ a, sessionBusPath ex (some a) = parseAddr ex a :=
  ⟨rfl, fun _ => rfl⟩

/-- For EVERY uid `get_uid_as_hex` does not panic and returns, for each decimal digit of the uid (most
    significant first, "0" for 0), the character '3' followed by that digit. -/
theorem uid_hex (uid : Nat) :
    getUidAsHex uid = some ((Nat.toDigits 10 uid).flatMap (fun c => ['3', c])) :=
  getUidAsHex_eq uid

/-- What `get_uid_as_hex` returns is the lowercase hex encoding of the ASCII decimal string of the uid
    (`Nat.repr`), and decoding the hex gives that decimal string back. -/
theorem uid_hex_is_hex_of_decimal (uid : Nat) :
    getUidAsHex uid = some (hexEncode (decimalBytes uid)) ∧
    hexDecode (uidHex uid) = some (decimalBytes uid) ∧
    decimalBytes uid = asciiBytes (Nat.repr uid).toList := by
  refine ⟨?_, ?_, ?_⟩
  · rw [hexEncode_decimalBytes]
    exact getUidAsHex_eq uid
  · rw [← hexEncode_decimalBytes]
    exact hexDecode_hexEncode _
  · rw [decimalBytes, Nat.toList_repr]

/-- For every script, uid, write behaviour and configuration:
    * what the client wrote is a prefix of  NUL, "AUTH EXTERNAL <hex uid>\r\n", ["NEGOTIATE_UNIX_FD\r\n"],
      "BEGIN\r\n"  (in this order, nothing else, every line CRLF-terminated by construction of the messages);
    * NEGOTIATE_UNIX_FD was written only if the first reply line was read completely, is valid UTF-8 and
      starts with "OK";
    * BEGIN was written only if the whole handshake succeeded. -/
theorem auth_trace (wok : Nat → Bool) (uid : Nat) (fd : Bool) (script : List Ev) :
    let o := connect wok uid fd script
    o.1.written <+: expectedMsgs uid fd ∧
    (negLine ∈ o.1.written → ∃ r, o.1.replies.head? = some r ∧ startsWith okBytes r.line = true ∧
      Utf8.valid r.line = true) ∧
    (beginLine ∈ o.1.written → o.2 = .ok) := by
  have h := connect_Exec wok uid fd script
  generalize connect wok uid fd script = o at h
  obtain ⟨b, r⟩ := o
  refine ⟨?_, fun hneg => ?_, fun hbeg => ?_⟩
  · exact writes_handshake uid fd ▸ h.written_prefix
  · -- NEGOTIATE_UNIX_FD is not among the first two lines, so the first reply was accepted, and it stays
    -- the first
    obtain ⟨m, h1, -, h2⟩ := h.reached
      (p₁ := [.write msgNul, .write (authLine (uidHex uid)), .expect okBytes .authFailed])
      (by simp [writes, neg_ne_nul, neg_ne_auth]) hneg
    -- `Ran` of a concrete list is a nested conjunction, taken apart by one pattern here and in the proofs below: the
    -- two leading `-` are the `wok … = true` of the writes; then the read, its `LineRead` and `hv`; `⟨-, ⟨⟩, -⟩` is
    -- the rejection, whose equation `rej = r` is `.authFailed = .ok` here; the accepting alternative ends in `Ran []`
    obtain ⟨-, -, cs, l, extra, rest, -, hv, ⟨-, ⟨⟩, -⟩ | ⟨hok, -, rfl⟩⟩ := h1.ran nofun
    obtain ⟨t, ht⟩ := h2.replies_prefix
    exact ⟨⟨l, extra⟩, by rw [← ht]; rfl, hok, hv⟩
  · -- BEGIN is the last step and not among the lines before it
    obtain ⟨m, -, hm, h2⟩ := h.reached
      (by cases fd <;> simp [writes, begin_ne_nul, begin_ne_auth, begin_ne_neg]) hbeg
    cases h2 with
    | writeFails => exact (hm hbeg).elim
    | write _ h3 => cases h3; rfl

/-- A success is reported only if the first reply line is valid UTF-8 and starts with
    "OK" and — with fd negotiation — the second one is valid UTF-8 and starts with "AGREE_UNIX_FD"; exactly
    these lines were read; the whole conversation was written and BEGIN was written last. -/
theorem success_only_on_ok (wok : Nat → Bool) (uid : Nat) (fd : Bool) (script : List Ev) :
    let o := connect wok uid fd script
    o.2 = .ok →
      o.1.written = expectedMsgs uid fd ∧ o.1.written.getLast? = some beginLine ∧
      ∃ r1, startsWith okBytes r1.line = true ∧ Utf8.valid r1.line = true ∧
        (fd = false → o.1.replies = [r1]) ∧
        (fd = true → ∃ r2, o.1.replies = [r1, r2] ∧ startsWith agreeBytes r2.line = true ∧
          Utf8.valid r2.line = true) := by
  dsimp only
  intro hres
  have h := (connect_Exec wok uid fd script).ran (hres ▸ nofun)
  rw [hres] at h
  generalize (connect wok uid fd script).1 = b at h
  cases fd with
  | false =>
    obtain ⟨-, -, cs, l, extra, rest, -, hv, ⟨-, ⟨⟩, -⟩ | ⟨hok, -, -, rfl⟩⟩ := h
    exact ⟨rfl, rfl, ⟨l, extra⟩, hok, hv, fun _ => rfl, nofun⟩
  | true =>
    obtain ⟨-, -, cs, l, extra, rest, -, hv, ⟨-, ⟨⟩, -⟩ | ⟨hok, -, cs2, l2, extra2, rest2, -, hv2,
      ⟨-, ⟨⟩, -⟩ | ⟨hag, -, -, rfl⟩⟩⟩ := h
    exact ⟨rfl, rfl, ⟨l, extra⟩, hok, hv, nofun, fun _ => ⟨⟨l2, extra2⟩, rfl, hag, hv2⟩⟩

/-- Whenever the result is not success — a reply that does not start with the
    expected keyword, a non-UTF-8 line, eof or a read error at any point, a failed write — BEGIN is not among
    the written messages. A rejected AUTH stops right after the AUTH line, a rejected NEGOTIATE_UNIX_FD right
    after that line; nothing more is sent. -/
theorem no_begin_after_reject (wok : Nat → Bool) (uid : Nat) (fd : Bool) (script : List Ev) :
    let o := connect wok uid fd script
    (o.2 ≠ .ok → beginLine ∉ o.1.written) ∧
    (o.2 = .authFailed → o.1.written = [msgNul, authLine (uidHex uid)] ∧
      ∃ r, o.1.replies = [r] ∧ startsWith okBytes r.line = false) ∧
    (o.2 = .fdFailed → fd = true ∧ o.1.written = [msgNul, authLine (uidHex uid), negLine] ∧
      ∃ r1 r2, o.1.replies = [r1, r2] ∧ startsWith agreeBytes r2.line = false) := by
  refine ⟨fun hne hmem => hne ((auth_trace wok uid fd script).2.2 hmem), fun hres => ?_, fun hres => ?_⟩
  · have h := (connect_Exec wok uid fd script).ran (hres ▸ nofun)
    rw [hres] at h
    generalize (connect wok uid fd script).1 = b at h
    obtain ⟨-, -, cs, l, extra, rest, -, -, ⟨hok, -, rfl⟩ | ⟨-, h⟩⟩ := h
    · exact ⟨rfl, _, rfl, hok⟩
    · cases fd with
      | false => exact nomatch h.2.1
      | true => obtain ⟨-, _, _, _, _, _, _, ⟨-, ⟨⟩, -⟩ | ⟨-, -, ⟨⟩, -⟩⟩ := h
  · have h := (connect_Exec wok uid fd script).ran (hres ▸ nofun)
    rw [hres] at h
    generalize (connect wok uid fd script).1 = b at h
    obtain ⟨-, -, cs, l, extra, rest, -, -, ⟨-, ⟨⟩, -⟩ | ⟨-, h⟩⟩ := h
    cases fd with
    | false => exact nomatch h.2.1
    | true =>
      obtain ⟨-, cs2, l2, extra2, rest2, -, -, ⟨hag, -, rfl⟩ | ⟨-, -, ⟨⟩, -⟩⟩ := h
      exact ⟨rfl, rfl, _, _, rfl, hag⟩

/-- `connect` is a total function: every finite script gives a result, and the result is never
    the panic marker (`find_line_ending(..).unwrap()` and `unreachable!()` are never reached). The client
    performs at most `script.length + 1` reads: every read consumes one script event, except that a read on
    the exhausted script counts as a read returning eof, and that ends the handshake. The events not consumed
    are left in place (a suffix of the script). -/
theorem terminates (wok : Nat → Bool) (uid : Nat) (fd : Bool) (script : List Ev) :
    let o := connect wok uid fd script
    o.2 ≠ .fail .panic ∧ o.1.reads ≤ script.length + 1 ∧
    ∃ taken, script = taken ++ o.1.script ∧ taken.length ≤ o.1.reads ∧ o.1.reads ≤ taken.length + 1 ∧
      (o.2 = .ok → o.1.reads = taken.length) := by
  have h := connect_Exec wok uid fd script
  obtain ⟨taken, k, h1, h2, h3, h4⟩ := h.taken
  rw [show ({ script := script } : St).reads = 0 from rfl, Nat.zero_add] at h2
  refine ⟨?_, ?_, taken, h1, ?_, ?_, fun hr => ?_⟩
  · rcases h.result with hr | ⟨f, hr, hf⟩ | ⟨kw, hm⟩
    · exact hr ▸ nofun
    · exact hr ▸ fun e => hf (ConnResult.fail.inj e)
    · exact handshake_rej hm _
  · rw [h2, show script = taken ++ _ from h1, List.length_append]
    exact Nat.add_le_add (Nat.le_add_right _ _) h3
  · rw [h2]
    exact Nat.le_add_right _ _
  · rw [h2]
    exact Nat.add_le_add_left h3 _
  · rw [h2, h4 hr]
    rfl

/-- After a successful handshake the client has performed exactly the reads
    `cs1 ++ cs2` (`cs2 = []` without fd negotiation), all chunks from the front of the script; the
    rest of the script — everything the server sends afterwards, i.e. the message stream — is untouched.
    The reads for one reply hold the line, its CRLF and possibly `extra` bytes that arrived in the same read
    as the end of the CRLF; no read is made once a complete line is in the buffer (`lazy`). The `extra` bytes
    are consumed and DROPPED: the promise "no message bytes are consumed" holds exactly for servers that send
    nothing beyond the line before BEGIN (`extra = []`, see `messages_untouched`). -/
theorem reads_nothing_after_last_reply (wok : Nat → Bool) (uid : Nat) (fd : Bool) (script : List Ev) :
    let o := connect wok uid fd script
    o.2 = .ok →
      ∃ cs1 cs2 r1, script = (cs1 ++ cs2).map Ev.chunk ++ o.1.script ∧
        o.1.reads = cs1.length + cs2.length ∧
        o.1.consumed = cs1.flatten.length + cs2.flatten.length ∧
        cs1.flatten = r1.line ++ crlf ++ r1.extra ∧
        (∀ cs', cs' <+: cs1 → cs' ≠ cs1 → hasLineEnding cs'.flatten = false) ∧
        (fd = false → cs2 = [] ∧ o.1.replies = [r1]) ∧
        (fd = true → ∃ r2, o.1.replies = [r1, r2] ∧ cs2.flatten = r2.line ++ crlf ++ r2.extra ∧
          (∀ cs', cs' <+: cs2 → cs' ≠ cs2 → hasLineEnding cs'.flatten = false)) := by
  dsimp only
  intro hres
  have h := (connect_Exec wok uid fd script).ran (hres ▸ nofun)
  rw [hres] at h
  generalize (connect wok uid fd script).1 = b at h
  cases fd with
  | false =>
    obtain ⟨-, -, cs, l, extra, rest, hl, -, ⟨-, ⟨⟩, -⟩ | ⟨-, -, -, rfl⟩⟩ := h
    exact ⟨cs, [], ⟨l, extra⟩, by rw [List.append_nil]; exact hl.script, Nat.zero_add _,
      Nat.zero_add _, hl.bytes, hl.lazy, fun _ => ⟨rfl, rfl⟩, nofun⟩
  | true =>
    obtain ⟨-, -, cs, l, extra, rest, hl, -, ⟨-, ⟨⟩, -⟩ | ⟨-, -, cs2, l2, extra2, rest2, hl2, -,
      ⟨-, ⟨⟩, -⟩ | ⟨-, -, -, rfl⟩⟩⟩ := h
    refine ⟨cs, cs2, ⟨l, extra⟩, ?_, congrArg (· + cs2.length) (Nat.zero_add _),
      congrArg (· + cs2.flatten.length) (Nat.zero_add _), hl.bytes, hl.lazy, nofun,
      fun _ => ⟨⟨l2, extra2⟩, rfl, hl2.bytes, hl2.lazy⟩⟩
    rw [List.map_append, List.append_assoc]
    exact hl.script.trans (congrArg _ hl2.script)

/-- If two scripts carry the same line-structured server behaviour for the (at most
    two) reply lines the client reads — each reply a CRLF-free line plus CRLF, split into non-empty reads in
    ANY way but such that the CRLF ends a read, or the stream stopping (close / error) after the same
    CRLF-free partial line — then the result, the written conversation and the accepted lines are the same.
    The hypothesis matters: bytes of a following reply that arrive in the same read as a CRLF are dropped
    (see the examples below). -/
theorem chunking_irrelevant (wok : Nat → Bool) (uid : Nat) (fd : Bool) (s t : List Ev)
    (h : SameStream 2 s t) :
    (connect wok uid fd s).2 = (connect wok uid fd t).2 ∧
    (connect wok uid fd s).1.written = (connect wok uid fd t).1.written ∧
    (connect wok uid fd s).1.replies = (connect wok uid fd t).1.replies := by
  simp only [connect, connectFrom_eq_exec]
  have := exec_sim wok (a := { script := s }) (b := { script := t }) ⟨rfl, rfl, rfl, h⟩
    (expects_handshake uid fd)
  exact ⟨this.1, this.2.written, this.2.replies⟩

/-- A server that answers each command with one line and sends nothing beyond it until
    it has seen BEGIN, every write of the client succeeding: the handshake succeeds and whatever follows in the
    script (`tail`, the message stream) is left completely unread, for every way the two reply lines are split
    into reads. -/
theorem messages_untouched (uid : Nat) (l1 l2 : List UInt8) (a b tail : List Ev)
    (hl1 : hasLineEnding l1 = false) (hl2 : hasLineEnding l2 = false)
    (ha : Chunking (l1 ++ crlf) a) (hb : Chunking (l2 ++ crlf) b)
    (hv1 : Utf8.valid l1 = true) (hv2 : Utf8.valid l2 = true)
    (hok : startsWith okBytes l1 = true) (hag : startsWith agreeBytes l2 = true) :
    (connect (fun _ => true) uid true (a ++ b ++ tail)).2 = .ok ∧
    (connect (fun _ => true) uid true (a ++ b ++ tail)).1.script = tail ∧
    (connect (fun _ => true) uid false (a ++ tail)).2 = .ok ∧
    (connect (fun _ => true) uid false (a ++ tail)).1.script = tail := by
  obtain ⟨csa, rfl, hfa, hna⟩ := ha
  obtain ⟨csb, rfl, hfb, hnb⟩ := hb
  simp only [connect, connectFrom_eq_exec, handshake, if_true, Bool.false_eq_true, if_false,
    List.cons_append, List.nil_append]
  rw [exec_write rfl, exec_write rfl, exec_expect_line (List.append_assoc ..) hfa hna hl1 hv1 hok,
    exec_write rfl, exec_expect_line (s := tail) rfl hfb hnb hl2 hv2 hag, exec_write rfl]
  rw [exec_write rfl, exec_write rfl, exec_expect_line (s := tail) rfl hfa hna hl1 hv1 hok,
    exec_write rfl]
  exact ⟨rfl, rfl, rfl, rfl⟩

example : parseAddr (fun p => p == "/run/user/1000/bus".toList)
    "unix:guid=00ff,path=/run/user/1000/bus,abstract=zz,path=/other".toList =
    .path "/run/user/1000/bus".toList := by
  -- a string literal is `String.ofList […]`: the rewrite leaves the list itself, which the kernel evaluates much
  -- faster than `toList` of the literal
  repeat rw [String.toList_ofList]
  decide +kernel
example : parseAddr (fun _ => false) "unix:abstract=/tmp/dbus-Xy,guid=1".toList =
    .abstract "/tmp/dbus-Xy".toList := by
  repeat rw [String.toList_ofList]
  decide +kernel
example : parseAddr (fun _ => true) "unix:guid=1,novalue,path=/x".toList = .errNotSupported := by
  repeat rw [String.toList_ofList]
  decide +kernel
example : parseAddr (fun _ => false) "unix:path=/x,abstract=a".toList = .errPathMissing "/x".toList := by
  repeat rw [String.toList_ofList]
  decide +kernel
example : parseAddr (fun _ => true) "tcp:host=localhost,port=1".toList = .errNotSupported := by
  repeat rw [String.toList_ofList]
  decide +kernel
example : parseAddr (fun _ => true) "unix".toList = .errNoAddress := by
  repeat rw [String.toList_ofList]
  decide +kernel

example : getUidAsHex 1000 = some "31303030".toList := by
  repeat rw [String.toList_ofList]
  decide +kernel
example : getUidAsHex 0 = some "30".toList := by
  repeat rw [String.toList_ofList]
  decide +kernel
example : getUidAsHex 4294967294 = some "34323934393637323934".toList := by
  repeat rw [String.toList_ofList]
  decide +kernel

-- a complete handshake whose replies arrive in pieces (`scriptGood`); the message bytes that follow stay in
-- the script

example :
    (connect allOk 1000 true scriptGood).2 = .ok ∧
    (connect allOk 1000 true scriptGood).1.script = [.chunk (bytesOf "l...")] ∧
    (connect allOk 1000 true scriptGood).1.written =
      [[0], bytesOf "AUTH EXTERNAL 31303030\r\n", bytesOf "NEGOTIATE_UNIX_FD\r\n", bytesOf "BEGIN\r\n"] ∧
    (connect allOk 1000 true scriptGood).1.reads = 4 ∧
    (connect allOk 1000 true scriptGood).1.replies =
      [⟨bytesOf "OK 1234", []⟩, ⟨bytesOf "AGREE_UNIX_FD", []⟩] := by
  simp only [scriptGood, bytesOf]
  repeat rw [String.toList_ofList]
  decide +kernel

-- rejection: nothing after the AUTH line
example :
    (connect allOk 0 true [.chunk (bytesOf "REJECTED EXTERNAL\r\n"), .chunk (bytesOf "OK\r\n")]).2 = .authFailed ∧
    (connect allOk 0 true [.chunk (bytesOf "REJECTED EXTERNAL\r\n"), .chunk (bytesOf "OK\r\n")]).1.written =
      [[0], bytesOf "AUTH EXTERNAL 30\r\n"] := by
  simp only [bytesOf]
  repeat rw [String.toList_ofList]
  decide +kernel

-- the peer closes in the middle of the reply / the script just ends / a read error / a non-UTF-8 line
example : (connect allOk 0 false [.chunk (bytesOf "O"), .eof]).2 = .fail .eof := by
  simp only [bytesOf]
  repeat rw [String.toList_ofList]
  decide +kernel
example : (connect allOk 0 false [.chunk (bytesOf "OK")]).2 = .fail .eof ∧
    (connect allOk 0 false [.chunk (bytesOf "OK")]).1.reads = 2 := by
  simp only [bytesOf]
  repeat rw [String.toList_ofList]
  decide +kernel
example : (connect allOk 0 true [.chunk (bytesOf "OK\r\n"), .err]).2 = .fail .ioOther := by
  simp only [bytesOf]
  repeat rw [String.toList_ofList]
  decide +kernel
example : (connect allOk 0 false [.chunk [0x4f, 0x4b, 0xff, 13, 10]]).2 = .fail .invalidData := by
  decide +kernel
-- a failing write (EPIPE) of BEGIN
example : (connect (fun k => k != 2) 0 false [.chunk (bytesOf "OK\r\n")]).2 = .fail .ioOther ∧
    beginLine ∉ (connect (fun k => k != 2) 0 false [.chunk (bytesOf "OK\r\n")]).1.written := by
  simp only [bytesOf]
  repeat rw [String.toList_ofList]
  decide +kernel

/-- OBSERVATION (real behaviour of `auth.rs`): a server that pipelines both replies into one read. The bytes
    behind the first CRLF are dropped with the per-step `read_buf`, so the client, after sending
    NEGOTIATE_UNIX_FD, waits for a reply that it has already thrown away: with the script ending here the
    model reports eof; a real server that keeps the socket open makes the client block forever. -/
example :
    (connect allOk 0 true scriptPipelined).2 = .fail .eof ∧
    (connect allOk 0 true scriptPipelined).1.written =
      [[0], bytesOf "AUTH EXTERNAL 30\r\n", bytesOf "NEGOTIATE_UNIX_FD\r\n"] ∧
    (connect allOk 0 true scriptPipelined).1.replies = [⟨bytesOf "OK 1234", bytesOf "AGREE_UNIX_FD\r\n"⟩] ∧
    (connect allOk 0 true scriptPipelined).1.reads = 2 := by
  simp only [scriptPipelined, bytesOf]
  repeat rw [String.toList_ofList]
  decide +kernel

/-- the same bytes with the CRLF of the first reply ending a read: success. So the outcome does depend on the
    chunking once a read carries bytes beyond a CRLF — the hypothesis of `chunking_irrelevant` is needed. -/
example :
    (connect allOk 0 true [.chunk (bytesOf "OK 1234\r\n"), .chunk (bytesOf "AGREE_UNIX_FD\r\n")]).2 = .ok := by
  simp only [bytesOf]
  repeat rw [String.toList_ofList]
  decide +kernel

/-- bytes behind the last reply's CRLF in the same read (here the start of a message) are consumed and lost -/
example :
    (connect allOk 0 false scriptGlued).2 = .ok ∧
    (connect allOk 0 false scriptGlued).1.script = [.chunk (bytesOf "rest")] ∧
    (connect allOk 0 false scriptGlued).1.replies = [⟨bytesOf "OK", bytesOf "l..."⟩] := by
  simp only [scriptGlued, bytesOf]
  repeat rw [String.toList_ofList]
  decide +kernel

example : SameStream 2
    [.chunk (bytesOf "OK\r\n"), .chunk (bytesOf "AGREE_UNIX_FD\r\n"), .chunk [1, 2, 3]]
    [.chunk (bytesOf "O"), .chunk (bytesOf "K\r"), .chunk (bytesOf "\n"), .chunk (bytesOf "AGREE_UNIX_FD\r\n")] := by
  simp only [bytesOf]
  repeat rw [String.toList_ofList]
  refine .line 1 okBytes [_] [_, _, _] _ _ ?_ ⟨[_], rfl, ?_, ?_⟩ ⟨[_, _, _], rfl, ?_, ?_⟩
    (.line 0 agreeBytes [_] [_] _ _ ?_ ⟨[_], rfl, ?_, ?_⟩ ⟨[_], rfl, ?_, ?_⟩ (.zero _ _))
  all_goals decide +kernel

end Rustbus.Auth

#print axioms Rustbus.Auth.addr_resolves_iff
#print axioms Rustbus.Auth.addr_unix_ok
#print axioms Rustbus.Auth.addr_unix_abstract_ok
#print axioms Rustbus.Auth.addr_path_iff
#print axioms Rustbus.Auth.addr_abstract_iff
#print axioms Rustbus.Auth.addr_errors
#print axioms Rustbus.Auth.session_bus_path
#print axioms Rustbus.Auth.uid_hex
#print axioms Rustbus.Auth.uid_hex_is_hex_of_decimal
#print axioms Rustbus.Auth.auth_trace
#print axioms Rustbus.Auth.success_only_on_ok
#print axioms Rustbus.Auth.no_begin_after_reject
#print axioms Rustbus.Auth.terminates
#print axioms Rustbus.Auth.reads_nothing_after_last_reply
#print axioms Rustbus.Auth.chunking_irrelevant
#print axioms Rustbus.Auth.messages_untouched
