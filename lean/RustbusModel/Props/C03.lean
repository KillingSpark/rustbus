import RustbusModel.Lemmas.Wire
/-!
C03 — Decoders accept exactly the valid encodings and return the encoded value.

`validate` models `validate_raw::validate_marshalled`, `unmarshal` the Param and the typed
unmarshallers (one decoder model, `dec`, tied to all three implementations by the correspondence run).
"Valid encoding of signature `t` at offset `off`" is: there is a value `v` whose encoding `enc bo off t v`
(C02: the D-Bus encoding) is exactly those bytes, nested at most 64 levels deep.
All theorems hold for ARBITRARY byte strings `buf`.
-/
namespace Rustbus.Wire
open Rustbus Rustbus.Bytes Rustbus.Spec.Wire

/-- Raw validation succeeds with `n` **exactly when** the `n` bytes at `off` are inside the buffer and
    are a valid encoding of the signature. In particular it reports exactly the number of bytes the value
    occupies. -/
theorem validate_iff (bo : ByteOrder) (buf : List UInt8) (off : Nat) (t : Ty) (n : Nat) :
    validate bo buf off t = some n ↔
      (off + n ≤ buf.length ∧ ∃ v, enc bo off t v = some (slice buf off n) ∧ depthOf t v ≤ maxDepth) := by
  unfold validate
  constructor
  · intro h
    split at h
    · rename_i v o' hd
      obtain ⟨bs, he, hw, rfl, hl, -, hdv, -⟩ := dec_iff.1 hd
      cases h
      rw [Nat.add_sub_cancel_left, hw.2]
      exact ⟨hl, v, he, hdv⟩
    · cases h
  · rintro ⟨hb, v, he, hdp⟩
    have hsl := slice_length _ _ _ hb
    rw [dec_iff.2 ⟨_, he, hasAt_slice hb, rfl, by omega, Nat.le_refl _, hdp, fun _ hc => by cases hc⟩]
    simp only [hsl, Nat.add_sub_cancel_left]

/-- An accepted value occupies at least one byte (no decoder loop can stall) and stays inside the buffer. -/
theorem validate_progress (bo : ByteOrder) (buf : List UInt8) (off : Nat) (t : Ty) (n : Nat)
    (h : validate bo buf off t = some n) : 0 < n ∧ off + n ≤ buf.length := by
  obtain ⟨hb, v, he, _⟩ := (validate_iff bo buf off t n).mp h
  exact ⟨slice_length _ _ _ hb ▸ enc_pos he, hb⟩

/-- The encoding is injective, so "the value those bytes denote" is well defined. -/
theorem enc_injective (bo : ByteOrder) (off : Nat) (t : Ty) (v v' : Val) (bs : List UInt8)
    (h : enc bo off t v = some bs) (h' : enc bo off t v' = some bs) : v = v' := by
  -- `dec` returns either value on the buffer `replicate off 0 ++ bs`, at a budget that covers both: it is a function
  have k (w : Val) (hw : enc bo off t w = some bs) (hdw : depthOf t w ≤ depthOf t v + depthOf t v') :=
    dec_enc bo t w (List.replicate off 0) bs [] none (depthOf t v + depthOf t v') (off + bs.length)
      (by simpa using hw) hdw (by simp [fdsOk]) (by simp) (by simp)
  have k1 := k v h (by omega)
  have k2 := k v' h' (by omega)
  rw [k1] at k2
  simp only [Option.some.injEq, Prod.mk.injEq] at k2
  exact k2.1

/-- Unmarshalling succeeds on exactly the inputs validation accepts, given enough attached descriptors,
    and returns the value the bytes encode. -/
theorem unmarshal_iff (bo : ByteOrder) (buf : List UInt8) (nfds off : Nat) (t : Ty) (v : Val) (o' : Nat) :
    unmarshal bo buf nfds off t = some (v, o') ↔
      (off ≤ o' ∧ validate bo buf off t = some (o' - off) ∧
       enc bo off t v = some (slice buf off (o' - off)) ∧ fdsBelow nfds t v = true) := by
  unfold unmarshal
  rw [dec_nfds, ← and_assoc, ← and_assoc]
  refine and_congr_left fun _ => ?_
  constructor
  · intro h
    obtain ⟨bs, he, hw, rfl, hl, -, hd, -⟩ := dec_iff.1 h
    rw [Nat.add_sub_cancel_left, hw.2]
    exact ⟨⟨Nat.le_add_right .., (validate_iff ..).2 ⟨hl, v, hw.2.symm ▸ he, hd⟩⟩, he⟩
  · rintro ⟨⟨hle, hv⟩, he⟩
    obtain ⟨hb, v', he', hd⟩ := (validate_iff ..).1 hv
    -- `v` and the value validation found have the same encoding
    cases enc_injective bo off t v v' _ he he'
    have ho := Nat.add_sub_cancel' hle
    exact dec_iff.2 ⟨_, he, hasAt_slice hb, by rw [slice_length _ _ _ hb, ho], ho ▸ hb, Nat.le_refl _, hd,
      fun _ hc => by cases hc⟩

end Rustbus.Wire

#print axioms Rustbus.Wire.validate_iff
#print axioms Rustbus.Wire.validate_progress
#print axioms Rustbus.Wire.enc_injective
#print axioms Rustbus.Wire.unmarshal_iff
