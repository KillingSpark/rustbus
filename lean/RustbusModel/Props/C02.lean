import RustbusModel.Lemmas.Marshal
import RustbusModel.Lemmas.WireShape
/-!
C02 — Marshalled bytes are exactly the D-Bus encoding; unencodable values are refused.

`Wire.enc` is the D-Bus encoding written as a recursive function of (byte order, absolute offset, type,
value). The theorems below (a) make `enc` auditable as *the* encoding, (b) prove that the marshalling
MECHANISM of the code (append, pad from buffer length, length placeholder + back-patch, slice fast path)
computes exactly `enc`, and (c) that only well-typed values are ever emitted. The tie between
`marshalM`/`enc` and the Rust marshallers (typed traits, Param tree, push_variant) is the byte-for-byte
correspondence run of this check.
-/
namespace Rustbus.Wire
open Rustbus Rustbus.Bytes Rustbus.Spec.Wire Rustbus.Marshal

/-- (b) The marshalling mechanism computes exactly the encoding at the absolute offset `buf.length`
    (and refuses exactly when there is none). -/
theorem marshal_is_enc (bo : ByteOrder) (t : Ty) (v : Val) (buf : List UInt8) :
    marshalM bo t v buf = (enc bo buf.length t v).map (buf ++ ·) :=
  marshalM_eq_enc bo t v buf

/-- (b) A successful marshal only appends: the buffer it was given is a prefix of the result (the
    back-patched length touches no earlier byte) and what was added is the encoding. A refusal is `none`
    here; what the code leaves behind then is removed by the rollback of C15. -/
theorem marshal_extends (bo : ByteOrder) (t : Ty) (v : Val) (buf buf' : List UInt8)
    (h : marshalM bo t v buf = some buf') : ∃ bs, enc bo buf.length t v = some bs ∧ buf' = buf ++ bs :=
  marshalM_eq_some.1 h

/-- (b) The typed API's fast path for slices of fixed-size elements equals the element-wise encoding. -/
theorem fast_path_is_enc (bo : ByteOrder) (b : Base) (k : Nat) (ns : List Nat) (buf : List UInt8)
    (hb : fastElem b = true) (hk : b.fixedSize = some k) (hn : ∀ n ∈ ns, n < 256 ^ k) :
    marshalSliceFastM bo b k ns buf =
      (enc bo buf.length (.array (.base b)) (.arr (ns.map Val.num))).map (buf ++ ·) :=
  marshalSliceFastM_eq_enc bo b k ns buf hb hk hn

/-- (a) Alignment: every encoding starts with exactly the zero bytes that align its type relative to the
    start of the body, followed by at least one byte of content. -/
theorem aligned_zero_padded (bo : ByteOrder) (off : Nat) (t : Ty) (v : Val) (bs : List UInt8)
    (h : enc bo off t v = some bs) : ∃ r, bs = zeros (padLen t.align off) ++ r ∧ 0 < r.length :=
  enc_aligned h

/-- (a) Fixed-size basic types: padding, then the value in the message's byte order; booleans only 0/1. -/
theorem fixed_encoding (bo : ByteOrder) (off : Nat) (b : Base) (k n : Nat) (hk : b.fixedSize = some k) :
    enc bo off (.base b) (.num n) =
      if n < b.bound then some (zeros (padLen b.align off) ++ bytesOf bo k n) else none := by
  rw [enc]
  unfold encBase
  rw [hk]

theorem bool_is_0_or_1 (bo : ByteOrder) (off : Nat) (v : Val) (bs : List UInt8)
    (h : enc bo off (.base .bool) v = some bs) : v = .num 0 ∨ v = .num 1 := by
  obtain ⟨n, rfl, hn, _⟩ := (encBase_fixed (k := 4) rfl).1 (by simpa only [enc] using h)
  have : n < 2 := hn
  rcases n with _ | _ | n
  · exact .inl rfl
  · exact .inr rfl
  · omega

/-- (a) Strings and object paths: 4-aligned u32 length, the bytes, one NUL; content valid. -/
theorem string_framing (bo : ByteOrder) (off : Nat) (b : Base) (s bs : List UInt8)
    (hb : b = .string ∨ b = .objpath) (h : enc bo off (.base b) (.str s) = some bs) :
    bs = zeros (padLen 4 off) ++ (bytesOf bo 4 s.length ++ (s ++ [0])) ∧ strOk b s = true := by
  obtain ⟨s', hv, hs, _, rfl⟩ := (encBase_str hb).1 (by simpa only [enc] using h)
  cases hv; exact ⟨rfl, hs⟩

/-- (a) Signatures: u8 length, the bytes, one NUL, no padding; content a valid signature. -/
theorem signature_framing (bo : ByteOrder) (off : Nat) (s bs : List UInt8)
    (h : enc bo off (.base .signature) (.str s) = some bs) :
    bs = UInt8.ofNat s.length :: (s ++ [0]) ∧ Sig.validateSignature (latin1 s) = true := by
  obtain ⟨s', hv, hs, rfl⟩ := encBase_sig.1 (by simpa only [enc] using h)
  cases hv; exact ⟨rfl, hs⟩

/-- (a) Strings never contain NUL and are valid UTF-8. -/
theorem string_content (bo : ByteOrder) (off : Nat) (s bs : List UInt8)
    (h : enc bo off (.base .string) (.str s) = some bs) : Utf8.valid s = true ∧ (0 : UInt8) ∉ s := by
  simpa [strOk] using (string_framing bo off .string s bs (Or.inl rfl) h).2

/-- (a) Arrays: 4-aligned u32 length that counts the element bytes only (neither itself nor the padding
    before the first element), padding to the element alignment (also when empty), the elements one
    after the other each at its own absolute offset; at most 64 MiB. -/
theorem array_framing (bo : ByteOrder) (off : Nat) (e : Ty) (vs : List Val) (bs : List UInt8)
    (h : enc bo off (.array e) (.arr vs) = some bs) :
    ∃ body, encList bo (off + padLen 4 off + 4 + padLen e.align (off + padLen 4 off + 4)) e vs = some body ∧
      body.length ≤ maxArrayLen ∧
      bs = zeros (padLen 4 off) ++ (bytesOf bo 4 body.length ++
            (zeros (padLen e.align (off + padLen 4 off + 4)) ++ body)) :=
  enc_array_some h

/-- (a) Dicts: like arrays with 8-aligned content; every entry starts 8-aligned with key then value. -/
theorem dict_framing (bo : ByteOrder) (off : Nat) (k : Base) (vt : Ty) (es : List Val) (bs : List UInt8)
    (h : enc bo off (.dict k vt) (.arr es) = some bs) :
    ∃ body, encEntries bo (off + padLen 4 off + 4 + padLen 8 (off + padLen 4 off + 4)) k vt es = some body ∧
      body.length ≤ maxArrayLen ∧
      bs = zeros (padLen 4 off) ++ (bytesOf bo 4 body.length ++
            (zeros (padLen 8 (off + padLen 4 off + 4)) ++ body)) :=
  enc_dict_some h

theorem dict_entry_framing (bo : ByteOrder) (off : Nat) (k : Base) (vt : Ty) (kv vv : Val)
    (rest : List Val) (bs : List UInt8)
    (h : encEntries bo off k vt (.struct [kv, vv] :: rest) = some bs) :
    ∃ kb vb rb, encBase bo (off + padLen 8 off) k kv = some kb ∧
      enc bo (off + padLen 8 off + kb.length) vt vv = some vb ∧
      encEntries bo (off + padLen 8 off + kb.length + vb.length) k vt rest = some rb ∧
      bs = zeros (padLen 8 off) ++ (kb ++ (vb ++ rb)) :=
  encEntries_cons_some h

/-- (a) Variants: the signature of the contained single complete type (u8 length, bytes, NUL), then the
    value encoded at the offset right after it. -/
theorem variant_framing (bo : ByteOrder) (off : Nat) (t : Ty) (v : Val) (bs : List UInt8)
    (h : enc bo off .variant (.variant t v) = some bs) :
    variantTypeOk t = true ∧
    ∃ body, enc bo (off + (sigBytes t).length + 2) t v = some body ∧
      bs = UInt8.ofNat (sigBytes t).length :: (sigBytes t ++ (0 :: body)) :=
  enc_variant_some h

/-- (a) Structs: 8-aligned, then the fields in order; never empty. -/
theorem struct_framing (bo : ByteOrder) (off : Nat) (fs : List Ty) (vs : List Val) (bs : List UInt8)
    (h : enc bo off (.struct fs) (.struct vs) = some bs) :
    fs ≠ [] ∧ ∃ body, encFields bo (off + padLen 8 off) fs vs = some body ∧
      bs = zeros (padLen 8 off) ++ body :=
  enc_struct_some h

/-- (a) Descriptors travel as their u32 index. -/
theorem fd_is_index (bo : ByteOrder) (off n : Nat) (hn : n < 256 ^ 4) :
    enc bo off (.base .unixfd) (.num n) = some (zeros (padLen 4 off) ++ bytesOf bo 4 n) :=
  (fixed_encoding bo off .unixfd 4 n rfl).trans (if_pos hn)

/-- (c) Only well-typed values are ever emitted: a string containing NUL or invalid UTF-8, an invalid
    object path or signature, an out-of-range integer, an empty struct, a malformed dict entry or a
    variant of an invalid type has NO encoding. -/
theorem unencodable_refused (bo : ByteOrder) (off : Nat) (t : Ty) (v : Val)
    (h : wellTyped t v = false) : enc bo off t v = none := by
  cases he : enc bo off t v with
  | none => rfl
  | some bs => rw [enc_some_wellTyped he] at h; cases h

/-- (c) Conversely every well-typed basic value is encodable. -/
theorem wellTyped_basic_encodable (bo : ByteOrder) (off : Nat) (b : Base) (v : Val)
    (h : wellTyped (.base b) v = true) : (enc bo off (.base b) v).isSome = true :=
  wellTyped_enc_some_noarray h

/-- The layout depends on the offset only through its residue mod 8. -/
theorem offset_mod8 (bo : ByteOrder) (off off' : Nat) (t : Ty) (v : Val) (hm : off % 8 = off' % 8) :
    enc bo off t v = enc bo off' t v := enc_offset_mod8 hm

-- non-vacuity
example : enc .le 1 (.base .string) (.str [0x61, 0x00, 0x62]) = none := by decide +kernel
example : enc .le 1 (.base .string) (.str [0x61, 0x62]) = some [0, 0, 0, 2, 0, 0, 0, 0x61, 0x62, 0] := by
  decide +kernel
example : enc .be 0 (.dict .string .variant)
    (.arr [.struct [.str [0x6b], .variant (.base .u32) (.num 7)]]) =
    some [0, 0, 0, 16, 0, 0, 0, 0, 0, 0, 0, 1, 0x6b, 0, 1, 0x75, 0, 0, 0, 0, 0, 0, 0, 7] := by
  decide +kernel

end Rustbus.Wire

#print axioms Rustbus.Wire.marshal_is_enc
#print axioms Rustbus.Wire.marshal_extends
#print axioms Rustbus.Wire.fast_path_is_enc
#print axioms Rustbus.Wire.aligned_zero_padded
#print axioms Rustbus.Wire.fixed_encoding
#print axioms Rustbus.Wire.bool_is_0_or_1
#print axioms Rustbus.Wire.string_framing
#print axioms Rustbus.Wire.signature_framing
#print axioms Rustbus.Wire.string_content
#print axioms Rustbus.Wire.array_framing
#print axioms Rustbus.Wire.dict_framing
#print axioms Rustbus.Wire.dict_entry_framing
#print axioms Rustbus.Wire.variant_framing
#print axioms Rustbus.Wire.struct_framing
#print axioms Rustbus.Wire.fd_is_index
#print axioms Rustbus.Wire.unencodable_refused
#print axioms Rustbus.Wire.wellTyped_basic_encodable
#print axioms Rustbus.Wire.offset_mod8
