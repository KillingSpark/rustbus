import RustbusModel.Lemmas.PeerId
/-!
C20 — Peer interface replies correctly; the machine id is a stable 32-hex-digit id.
-/
namespace Rustbus.PeerId
open Rustbus.Serial (Hdr makeResponse)

/-- For every outcome of the random draw (u64, u32) and every clock value (u32) the id has exactly
    32 characters, all of them hexadecimal digits. -/
theorem machine_id_len (r1 r2 secs : Nat) (h1 : r1 < 2 ^ 64) (h2 : r2 < 2 ^ 32) (h3 : secs < 2 ^ 32) :
    (formatMachineUuid r1 r2 secs).length = 32 ∧
    (formatMachineUuid r1 r2 secs).all isHexUpper = true := by
  unfold formatMachineUuid
  constructor
  · rw [List.length_append, List.length_append, fmtHexMin_len 16 r1 (by decide) (by decide) h1,
      fmtHexMin_len 8 r2 (by decide) (by decide) h2, fmtHexMin_len 8 secs (by decide) (by decide) h3]
  · rw [List.all_append, List.all_append, fmtHexMin_allHex, fmtHexMin_allHex, fmtHexMin_allHex]; rfl

/-- The id `get_machine_id` returns on an empty store (the one it creates) is a 32-hex-digit id. -/
theorem get_machine_id_fresh_is_32hex (r1 r2 secs : Nat) (h1 : r1 < 2 ^ 64) (h2 : r2 < 2 ^ 32)
    (h3 : secs < 2 ^ 32) :
    ((getMachineId none r1 r2 secs).1).length = 32 ∧
    ((getMachineId none r1 r2 secs).1).all isHexUpper = true :=
  machine_id_len r1 r2 secs h1 h2 h3

/-- Run `get_machine_id` once per draw in `draws`, threading the stored cell. -/
def runCalls : Option (List Char) → List (Nat × Nat × Nat) → List (List Char)
  | _, [] => []
  | cell, (r1, r2, s) :: rest =>
    let (id, cell') := getMachineId cell r1 r2 s
    id :: runCalls cell' rest

/-- Stability: as long as the stored id exists, every call returns it, whatever is drawn. -/
theorem machine_id_stable_stored (s : List Char) (draws : List (Nat × Nat × Nat)) :
    ∀ id ∈ runCalls (some s) draws, id = s := by
  induction draws with
  | nil => intro id h; simp [runCalls] at h
  | cons d ds ih =>
    intro id h
    simp only [runCalls, getMachineId, List.mem_cons] at h
    rcases h with h | h
    · exact h
    · exact ih id h

/-- Stability from an empty store: all calls return the id created by the *first* draw. -/
theorem machine_id_stable (d : Nat × Nat × Nat) (draws : List (Nat × Nat × Nat)) :
    ∀ id ∈ runCalls none (d :: draws), id = formatMachineUuid d.1 d.2.1 d.2.2 := by
  intro id h
  simp only [runCalls, getMachineId, List.mem_cons] at h
  rcases h with h | h
  · exact h
  · exact machine_id_stable_stored _ draws id h

/-- Decision logic: a reply is written exactly for Ping / GetMachineId on the Peer interface;
    every other header (interface or member absent or different) is "not handled", nothing written. -/
theorem peer_logic (iface member : Option (List Char)) :
    (handlePeer iface member = .replied false ↔
        iface = some peerIface ∧ member = some pingM) ∧
    (handlePeer iface member = .replied true ↔
        iface = some peerIface ∧ member = some getIdM) ∧
    (handlePeer iface member = .notHandled ↔
        ¬ (iface = some peerIface ∧
           (member = some pingM ∨ member = some getIdM))) := by
  have hne : pingM ≠ getIdM := by decide
  cases iface with
  | none => simp [handlePeer]
  | some i =>
    by_cases hi : i = peerIface
    · subst hi
      cases member with
      | none => simp [handlePeer]
      | some m =>
        by_cases h1 : m = pingM
        · subst h1; simp [handlePeer, hne]
        · by_cases h2 : m = getIdM
          · subst h2; simp [handlePeer, hne.symm]
          · simp [handlePeer, h1, h2]
    · simp [handlePeer, hi]

/-- `filter_peer` accepts exactly the interface / member pairs for which `handle_peer_message` answers a method call.
    It does not look at the message type: a signal named `Ping` on the Peer interface passes the filter and is then not
    answered (`other_message_not_answered`). -/
theorem filter_iff_handled (iface member : Option (List Char)) :
    filterPeer iface member = true ↔ ∃ b, handlePeer iface member = .replied b := by
  unfold filterPeer
  cases handlePeer iface member <;> simp

/-- A handled call is answered exactly once, by a method return to its caller with its serial, when the connection takes
    the reply (`wrote`; a refused send: `at_most_one_reply`). -/
theorem handled_call_answered_exactly_once (m : Incoming) (cell : Option (List Char))
    (hc : m.isCall = true) (hi : m.iface = some peerIface) (hm : m.member = some pingM ∨ m.member = some getIdM) (hw : m.wrote = true) :
    ∃ r cell', handlePeerMessage m cell = (.ok true, [r], cell') ∧
      r.hdr.replySerial = m.call.serial ∧ r.hdr.destination = m.call.sender ∧ r.hdr.isError = false ∧
      r.hdr.errorName = none ∧ r.hdr.serial = none ∧
      (m.member = some pingM → r.body = none ∧ cell' = cell) ∧
      (m.member = some getIdM → r.body = some (getMachineId cell m.r1 m.r2 m.secs).1 ∧
        cell' = some (getMachineId cell m.r1 m.r2 m.secs).1) := by
  have hne : pingM ≠ getIdM := by decide
  rcases hm with hm | hm
  · have hp : handlePeer m.iface m.member = .replied false := ((peer_logic _ _).1).2 ⟨hi, hm⟩
    refine ⟨{ hdr := makeResponse m.call, body := none }, cell, ?_, rfl, rfl, rfl, rfl, rfl, fun _ => ⟨rfl, rfl⟩, ?_⟩
    · simp [handlePeerMessage, handleCall, hp, hw, hc]
    · intro h2; rw [hm] at h2; exact absurd (Option.some.inj h2) hne
  · have hp : handlePeer m.iface m.member = .replied true := ((peer_logic _ _).2.1).2 ⟨hi, hm⟩
    refine ⟨{ hdr := makeResponse m.call, body := some (getMachineId cell m.r1 m.r2 m.secs).1 },
      some (getMachineId cell m.r1 m.r2 m.secs).1, ?_, rfl, rfl, rfl, rfl, rfl, ?_, fun _ => ⟨rfl, rfl⟩⟩
    · simp [handlePeerMessage, handleCall, hp, hw, hc, getMachineId_snd]
    · intro h2; rw [hm] at h2; exact absurd (Option.some.inj h2) hne.symm

/-- Every other message - not a method call (a signal, a return, an error that names the Peer interface), interface absent
    or different, member absent or different - is reported as not handled, nothing is written and the id file is not
    touched, whether or not the connection would have taken a reply. -/
theorem other_message_not_answered (m : Incoming) (cell : Option (List Char))
    (h : ¬ (m.isCall = true ∧ m.iface = some peerIface ∧ (m.member = some pingM ∨ m.member = some getIdM))) :
    handlePeerMessage m cell = (.ok false, [], cell) := by
  by_cases hc : m.isCall = true
  · have hp : handlePeer m.iface m.member = .notHandled := ((peer_logic _ _).2.2).2 (fun hh => h ⟨hc, hh⟩)
    simp [handlePeerMessage, handleCall, hp, hc]
  · simp [handlePeerMessage, hc]

/-- Never more than one message per call, never an error message, and nothing at all when the send was refused. -/
theorem at_most_one_reply (m : Incoming) (cell : Option (List Char)) :
    (handlePeerMessage m cell).2.1.length ≤ 1 ∧
    (∀ r ∈ (handlePeerMessage m cell).2.1, r.hdr = makeResponse m.call) ∧
    (m.wrote = false → (handlePeerMessage m cell).2.1 = []) ∧
    ((handlePeerMessage m cell).1 = .ok true ↔ (handlePeerMessage m cell).2.1.length = 1) := by
  unfold handlePeerMessage handleCall
  cases m.isCall
  · simp
  cases handlePeer m.iface m.member with
  | notHandled => simp
  | replied b => cases b <;> cases m.wrote <;> simp

/-- Stability over a whole serving history, whatever else is served in between and whatever is drawn: while the stored id
    exists every `GetMachineId` reply carries it. -/
theorem served_ids_stable_stored (s : List Char) (ms : List Incoming) :
    ∀ id ∈ idsServed (serve (some s) ms), id = s := by
  obtain ⟨c, hids, rfl | ⟨h, _⟩⟩ := served_ids ms (some s)
  · exact fun id h => (Option.some.inj (hids id h)).symm
  · cases h

/-- From an empty store: all ids served over a history are one and the same 32-digit hexadecimal string, whatever is
    drawn later (`served_ids`: the id formatted from the draw of one of the messages, held by the file from then on). -/
theorem served_ids_stable_and_32hex (ms : List Incoming)
    (hd : ∀ m ∈ ms, m.r1 < 2 ^ 64 ∧ m.r2 < 2 ^ 32 ∧ m.secs < 2 ^ 32) :
    ∃ s, (∀ id ∈ idsServed (serve none ms), id = s) ∧ s.length = 32 ∧ s.all isHexUpper = true := by
  obtain ⟨c, hids, rfl | ⟨_, m, hm, rfl⟩⟩ := served_ids ms none
  · -- no id was served: any 32-digit id is a witness
    exact ⟨formatMachineUuid 0 0 0, fun id h => (nomatch hids id h),
      machine_id_len 0 0 0 (by decide) (by decide) (by decide)⟩
  · obtain ⟨h1, h2, h3⟩ := hd m hm
    exact ⟨_, fun id h => (Option.some.inj (hids id h)).symm, machine_id_len m.r1 m.r2 m.secs h1 h2 h3⟩

-- non-vacuity: a serving history from an empty store - GetMachineId whose send is refused (the id is created all the
-- same), a foreign call, Ping, GetMachineId twice with other draws, in between a SIGNAL named Ping on the Peer
-- interface (not answered): both answers carry the id of the first draw
def exCall (serial : Nat) : Hdr :=
  { serial := some serial, sender := some [':', '1', '.', '5'], destination := none, replySerial := none,
    errorName := none, isError := false }
def exIn (serial : Nat) (member : Option (List Char)) (r1 : Nat) (wrote : Bool) : Incoming :=
  { isCall := true, call := exCall serial, iface := some peerIface, member := member, r1 := r1, r2 := 1, secs := 2, wrote := wrote }
example : serve none [exIn 3 (some getIdM) 10 false, { exIn 4 (some pingM) 0 true with iface := none },
      exIn 5 (some pingM) 0 true, exIn 6 (some getIdM) 11 true, { exIn 8 (some pingM) 0 true with isCall := false },
      exIn 7 (some getIdM) 12 true] =
    [(.sendErr, []), (.ok false, []),
     (.ok true, [{ hdr := makeResponse (exCall 5), body := none }]),
     (.ok true, [{ hdr := makeResponse (exCall 6), body := some (formatMachineUuid 10 1 2) }]),
     (.ok false, []),
     (.ok true, [{ hdr := makeResponse (exCall 7), body := some (formatMachineUuid 10 1 2) }])] := by decide +kernel
example : (makeResponse (exCall 6)).replySerial = some 6 ∧ (makeResponse (exCall 6)).destination = some [':', '1', '.', '5'] := by
  decide +kernel

example : (formatMachineUuid 0 0 0).length = 32 := by decide +kernel
example : String.ofList (formatMachineUuid (2^64-1) 1 (2^32-1)) = "FFFFFFFFFFFFFFFF00000001FFFFFFFF" := by
  refine congrArg String.ofList ?_  -- the literal unifies with `String.ofList […]`: compare the character lists
  decide +kernel
example : handlePeer (some peerIface) (some pingM) = .replied false := by decide +kernel
example : peerIface = "org.freedesktop.DBus.Peer".toList ∧ pingM = "Ping".toList ∧ getIdM = "GetMachineId".toList := by
  rw [String.toList_ofList, String.toList_ofList, String.toList_ofList]
  exact ⟨rfl, rfl, rfl⟩

end Rustbus.PeerId

#print axioms Rustbus.PeerId.machine_id_len
#print axioms Rustbus.PeerId.get_machine_id_fresh_is_32hex
#print axioms Rustbus.PeerId.machine_id_stable_stored
#print axioms Rustbus.PeerId.machine_id_stable
#print axioms Rustbus.PeerId.peer_logic
#print axioms Rustbus.PeerId.filter_iff_handled
#print axioms Rustbus.PeerId.handled_call_answered_exactly_once
#print axioms Rustbus.PeerId.other_message_not_answered
#print axioms Rustbus.PeerId.at_most_one_reply
#print axioms Rustbus.PeerId.served_ids_stable_stored
#print axioms Rustbus.PeerId.served_ids_stable_and_32hex
