import RustbusModel.Lemmas.FdTableFrames
import RustbusModel.Lemmas.FdTableSocket
/-!
C11 — Descriptors stay with their own message and are never leaked or double-closed.

The model: the process descriptor table, `UnixFd` cells with their `Arc` count, bodies, the socket as a FIFO
of messages carrying open-file identities.
A history is any `List Op`; `run State.init ops` is the state after it. Caller actions outside the API's
ownership discipline (closing / wrapping a number the caller does not own, naming an object that does
not exist any more) are answered with `illegal` and change nothing, so all theorems really are about
ALL lists of operations.
-/
namespace Rustbus.FdTable

/-- The invariant `Inv` (every `Arc` count is the number of live `UnixFd`s on its cell, every open descriptor is
    the caller's or owned by exactly one live cell, what the library closed is not open and was closed once)
    holds in the initial state. -/
theorem inv_initial : Inv State.init := inv_init

/-- Every single operation (push, failed push with rollback, reset, drop, send, receive — also of a
    message the decoder refuses —, unmarshal, take, get, dup, clone, drop of a handle, and the caller's
    own open / close / wrap) preserves the invariant. -/
theorem inv_preserved (s : State) (op : Op) (h : Inv s) : Inv (step s op).1 := inv_step h op

/-- The invariant holds after every history. -/
theorem inv_all_histories (ops : List Op) : Inv (run State.init ops) := inv_run ops inv_init

/-- The global invariant in the words of the property: at any time, after any history, every descriptor the
    library itself created (duplicate made while marshalling, descriptor installed by a receive, `UnixFd::dup`)
    is in EXACTLY ONE of three states: open and owned by a cell that at least one live handle points to;
    taken (ownership went to the caller: no cell owns it, the library has not closed it, it is open iff the
    caller still owns it); closed exactly once by the library and owned by nobody. -/
theorem lib_descriptor_states (ops : List Op) (d : Nat) (hd : d ∈ (run State.init ops).lib) :
    (OwnedLive (run State.init ops) d ∧ ¬ TakenOut (run State.init ops) d ∧ ¬ ClosedOnce (run State.init ops) d) ∨
    (¬ OwnedLive (run State.init ops) d ∧ TakenOut (run State.init ops) d ∧ ¬ ClosedOnce (run State.init ops) d) ∨
    (¬ OwnedLive (run State.init ops) d ∧ ¬ TakenOut (run State.init ops) d ∧ ClosedOnce (run State.init ops) d) :=
  lib_states (inv_all_histories ops) hd

/-- The `Arc` count of every cell equals the number of live `UnixFd` values that point to it (handles in the
    caller's hands plus entries of descriptor lists), after any history. -/
theorem refs_exact (ops : List Op) (c : Nat) (x : Cell) (hx : (run State.init ops).cells[c]? = some x) :
    x.refs = refCount (run State.init ops) c :=
  (inv_all_histories ops).cnt c x hx

/-- No double close, after any history (including failed pushes, resets and drops): the error state (a
    `close` on a descriptor that is not open, an `Arc` count going below zero) is unreachable; the library
    closed no descriptor twice; everything it closed is closed; it never closed a descriptor the caller owns
    nor one that was taken. -/
theorem no_double_close (ops : List Op) :
    (run State.init ops).err = false ∧ (run State.init ops).libClosed.Nodup ∧
    ∀ d, d ∈ (run State.init ops).libClosed →
      d ∉ keys (run State.init ops).open ∧ d ∉ (run State.init ops).user ∧ d ∉ (run State.init ops).takenFds := by
  have h := inv_all_histories ops
  exact ⟨h.noErr, h.closedNodup, fun d hd => ⟨h.closedNotOpen d hd,
    fun hu => h.closedNotOpen d hd (h.userOpen d hu),
    fun ht => (h.takenOk d ht).1 hd⟩⟩

/-- Leak freedom: when, after any history, every handle, body and message has been dropped, the open
    descriptors are exactly the caller-owned ones (`caller_owned_changes` says which these are). -/
theorem leak_free (ops : List Op) (hd : AllDropped (run State.init ops)) :
    ∀ d, d ∈ keys (run State.init ops).open ↔ d ∈ (run State.init ops).user :=
  leak_free_of_inv (inv_all_histories ops) hd

/-- What "caller-owned" means: the set changes only by the caller's own actions and by `take_raw_fd`. Hence the
    caller-owned descriptors are those from `userOpen` plus those taken, minus those the caller closed or wrapped. -/
theorem caller_owned_changes (s : State) (op : Op) (d : Nat) :
    d ∈ (step s op).1.user ↔
      (d ∈ s.user ∧ ¬ ∃ r, (op = .userClose r ∨ op = .wrap r) ∧ s.raws[r]? = some d) ∨
      (∃ f, op = .userOpen f ∧ d = s.nextFd) ∨
      (∃ h, op = .take h ∧ (step s op).2 = .fd (some d)) :=
  user_step s op d

/-- A descriptor the caller owns is open and has never been closed by the library, after any history:
    nothing the library does (pushing it, dropping or resetting the body it was pushed into, …) closes it. -/
theorem caller_owned_stays_open (ops : List Op) (d : Nat) (hd : d ∈ (run State.init ops).user) :
    d ∈ keys (run State.init ops).open ∧ d ∉ (run State.init ops).libClosed := by
  have h := inv_all_histories ops
  exact ⟨h.userOpen d hd, fun hc => h.closedNotOpen d hc (h.userOpen d hd)⟩

/-- As long as the caller holds a handle, after any history, its cell is alive, and unless the descriptor
    was taken it is open, refers to a file, has not been closed, and is not caller-owned (the handle will
    close it). -/
theorem held_handle_open (ops : List Op) (h c : Nat)
    (hh : (run State.init ops).handles[h]? = some (some c)) :
    ∃ x, (run State.init ops).cells[c]? = some x ∧ 0 < x.refs ∧
      (x.taken = false → x.fd ∈ keys (run State.init ops).open ∧ x.fd ∉ (run State.init ops).libClosed ∧
        x.fd ∉ (run State.init ops).user ∧ ∃ f, lookupFd (run State.init ops).open x.fd = some f) := by
  obtain ⟨x, h1, h2, h4⟩ := live_cell (inv_all_histories ops) (refCount_pos_of_handle hh)
  exact ⟨x, h1, h2, fun htk => have ⟨ho, hc, hu⟩ := h4 htk; ⟨ho, hc, hu, lookup_of_mem_keys ho⟩⟩

/-- Marshalling a handle `h` (whose descriptor has not been taken) into a live body `b`, in any
    state satisfying the invariant, succeeds and duplicates:
    * the caller's descriptor is still open, refers to the same file `f`, is still owned by the same cell
      with the same `Arc` count, the caller still has all its handles and its own descriptors, and the
      library closed nothing;
    * the body's descriptor list is `old ++ [new]`, where `new` is a new cell (one reference, not taken)
      for a FRESH descriptor (`s.nextFd`, not open before) that refers to the same open file `f` and is
      recorded as created by the library;
    * the index written into the body is `old.length`, the position of the duplicate in the list. -/
theorem push_dups (s : State) (hs : Inv s) (b h c : Nat) (bd : Body) (x : Cell)
    (hb : s.bodies[b]? = some bd) (hlive : bd.live = true)
    (hh : s.handles[h]? = some (some c)) (hx : s.cells[c]? = some x) (htk : x.taken = false) :
    ∃ f, lookupFd s.open x.fd = some f ∧ (push s b [.handle h]).2 = .ok ∧
      lookupFd (push s b [.handle h]).1.open x.fd = some f ∧
      (push s b [.handle h]).1.cells[c]? = some x ∧
      (push s b [.handle h]).1.handles = s.handles ∧ (push s b [.handle h]).1.user = s.user ∧
      (push s b [.handle h]).1.libClosed = s.libClosed ∧
      (push s b [.handle h]).1.bodies[b]? =
        some ⟨bd.fds ++ [s.cells.length], bd.idx ++ [bd.fds.length], bd.live⟩ ∧
      (push s b [.handle h]).1.cells[s.cells.length]? = some ⟨s.nextFd, false, 1⟩ ∧
      s.nextFd ∉ keys s.open ∧ lookupFd (push s b [.handle h]).1.open s.nextFd = some f ∧
      s.nextFd ∈ (push s b [.handle h]).1.lib := by
  obtain ⟨x', hx', _, h4⟩ := live_cell hs (refCount_pos_of_handle hh)
  cases hx.symm.trans hx'
  obtain ⟨f, hf⟩ := lookup_of_mem_keys (h4 htk).1
  have hfresh := fresh_of_bound hs.bound
  rw [push_single hb hlive (it := .handle h) (by simp [itemLegal, hh]) (by simp [itemSource, hh, hx, htk]) hf]
  exact ⟨f, hf, rfl, lookup_append_left hf, getElem?_concat.2 (Or.inl hx), rfl, rfl, rfl,
    by simp [lt_length_of_getElem? hb], by simp, hfresh, lookup_append_fresh hfresh, by simp⟩

/-- The same for `&dyn AsRawFd`: pushing a raw number `d` that is open (for instance one the caller owns)
    duplicates it; `d` stays open, keeps its file, and stays caller-owned if it was. -/
theorem push_raw_dups (s : State) (hs : Inv s) (b r d f : Nat) (bd : Body)
    (hb : s.bodies[b]? = some bd) (hlive : bd.live = true)
    (hr : s.raws[r]? = some d) (hf : lookupFd s.open d = some f) :
    (push s b [.raw r]).2 = .ok ∧
      lookupFd (push s b [.raw r]).1.open d = some f ∧
      (push s b [.raw r]).1.user = s.user ∧ (push s b [.raw r]).1.libClosed = s.libClosed ∧
      (push s b [.raw r]).1.bodies[b]? =
        some ⟨bd.fds ++ [s.cells.length], bd.idx ++ [bd.fds.length], bd.live⟩ ∧
      (push s b [.raw r]).1.cells[s.cells.length]? = some ⟨s.nextFd, false, 1⟩ ∧
      s.nextFd ∉ keys s.open ∧ lookupFd (push s b [.raw r]).1.open s.nextFd = some f := by
  have hfresh := fresh_of_bound hs.bound
  rw [push_single hb hlive (it := .raw r) (by simpa [itemLegal] using lt_length_of_getElem? hr) hr hf]
  exact ⟨rfl, lookup_append_left hf, rfl, rfl, by simp [lt_length_of_getElem? hb], by simp, hfresh,
    lookup_append_fresh hfresh⟩

/-- A push call with any number of descriptor-carrying elements at any nesting position (`items` in
    marshalling order) that succeeds: the descriptor list is `old ++ news` with one new cell per element, the
    indices written are `old.length, old.length + 1, …` (each the position of its duplicate), every new cell
    holds one reference to a descriptor created after the call started that refers to the same open file as
    the element's source descriptor, all old cells, the caller's handles, raw numbers and descriptors are
    untouched and nothing was closed. -/
theorem push_many (s : State) (hs : Inv s) (b : Nat) (items : List Item) (bd : Body)
    (hb : s.bodies[b]? = some bd) (hok : (push s b items).2 = .ok) :
    ∃ news, news.length = items.length ∧
      (push s b items).1.bodies[b]? =
        some ⟨bd.fds ++ news, bd.idx ++ List.range' bd.fds.length news.length, bd.live⟩ ∧
      (push s b items).1.handles = s.handles ∧ (push s b items).1.raws = s.raws ∧
      (push s b items).1.user = s.user ∧ (push s b items).1.libClosed = s.libClosed ∧
      (∀ (c : Nat) (x : Cell), s.cells[c]? = some x → (push s b items).1.cells[c]? = some x) ∧
      (∀ d f, lookupFd s.open d = some f → lookupFd (push s b items).1.open d = some f) ∧
      (∀ (j c : Nat), news[j]? = some c → ∃ (it : Item) (d f fd : Nat), items[j]? = some it ∧
        itemSource (push s b items).1 it = some d ∧ lookupFd (push s b items).1.open d = some f ∧
        (push s b items).1.cells[c]? = some (Cell.mk fd false 1) ∧ s.nextFd ≤ fd ∧
        lookupFd (push s b items).1.open fd = some f) := by
  obtain ⟨news, hext, hlen, hsrc⟩ := pushLoop_ext items hb
  rcases push_cases s b items with e | ⟨_, _, _, _, ⟨htrue, e⟩ | e⟩ <;> rw [e] at hok ⊢
  · cases hok
  · refine ⟨news, hlen htrue, hext.body, hext.handles, hext.raws, hext.user, hext.libClosed, hext.cells,
      hext.lookupMono, ?_⟩
    intro j c hj
    obtain ⟨it, d, f, fd, h1, h2, h3, h4, h5⟩ := hsrc hs.bound j c hj
    exact ⟨it, d, f, fd, h1, h2, h3, h4, (hext.newFresh c _ (List.mem_of_getElem? hj) h4).1, h5⟩
  · cases hok

/-- A push call that fails — an element whose handle was taken (`EmptyUnixFd`), a failing `dup`, or any other
    element that cannot be marshalled, after `k ≥ 0` descriptors were already duplicated — rolls back
    completely: all bodies (descriptor lists and index bytes), the caller's handles, raw numbers, own
    descriptors and taken descriptors are as before, every old cell is unchanged, and the SET of open
    descriptors is the same as before the call: each of the `k` duplicates has been closed (exactly once, by
    `no_double_close`), nothing else has. The invariant holds afterwards. -/
theorem push_fail_rolls_back (s : State) (hs : Inv s) (b : Nat) (items : List Item)
    (herr : (push s b items).2 = .err) :
    Inv (push s b items).1 ∧
    (push s b items).1.bodies = s.bodies ∧ (push s b items).1.handles = s.handles ∧
    (push s b items).1.raws = s.raws ∧ (push s b items).1.user = s.user ∧
    (push s b items).1.takenFds = s.takenFds ∧
    (∀ d, d ∈ keys (push s b items).1.open ↔ d ∈ keys s.open) ∧
    (∀ (c : Nat) (x : Cell), s.cells[c]? = some x → (push s b items).1.cells[c]? = some x) :=
  ⟨inv_push hs b items, push_err_restores hs b items herr⟩

/-- Whatever is done to a body — pushing into it (successfully or not), resetting it, dropping it, sending
    it — the caller keeps all its handles and raw numbers, its own descriptors stay its own, and every handle
    that had its descriptor still has it, alive and OPEN: closing or dropping the body never closes the
    caller's descriptor. -/
theorem body_ops_spare_caller (s : State) (hs : Inv s) (op : Op)
    (hop : (∃ b items, op = .push b items) ∨ (∃ b, op = .reset b) ∨ (∃ b, op = .dropBody b) ∨ (∃ b, op = .send b)) :
    (step s op).1.handles = s.handles ∧ (step s op).1.raws = s.raws ∧ (step s op).1.user = s.user ∧
    ∀ (h c : Nat) (x : Cell), s.handles[h]? = some (some c) → s.cells[c]? = some x → x.taken = false →
      ∃ x', (step s op).1.cells[c]? = some x' ∧ x'.fd = x.fd ∧ x'.taken = false ∧ 0 < x'.refs ∧
        x.fd ∈ keys (step s op).1.open := by
  have hk : Keep s (step s op).1 ∧ (step s op).1.user = s.user := by
    rcases hop with ⟨b, items, rfl⟩ | ⟨b, rfl⟩ | ⟨b, rfl⟩ | ⟨b, rfl⟩
    · exact ⟨(spares_push s b items).2, (spares_push s b items).1.user⟩
    · exact ⟨(spares_reset s b).2, (spares_reset s b).1.user⟩
    · exact ⟨(spares_dropBody s b).2, (spares_dropBody s b).1.user⟩
    · exact send_frame s b
  exact ⟨hk.1.handles, hk.1.raws, hk.2, fun h c x => hk.1.held (inv_step hs op)⟩

/-- Sending a live body, in any state satisfying the invariant, never fails; the message
    put into the socket announces UNIX_FDS = the length of the body's descriptor list and carries the body's
    index bytes and, in order, the open files behind `get_raw_fds()` (the entries that were not taken out);
    the body keeps its descriptors (nothing else changes). If no entry was taken out, the number of descriptors
    travelling equals UNIX_FDS and the `j`-th of them is the open file of the `j`-th entry. -/
theorem unix_fds_header (s : State) (hs : Inv s) (b : Nat) (bd : Body)
    (hb : s.bodies[b]? = some bd) (hlive : bd.live = true) :
    ∃ fl, filesOf s (rawFdsOf s bd.fds) = some fl ∧
      send s b = ({ s with wire := s.wire ++ [⟨fl, bd.fds.length, bd.idx, true⟩], enq := s.enq ++ [fl] }, .ok) ∧
      ((∀ c, c ∈ bd.fds → ∃ x, s.cells[c]? = some x ∧ x.taken = false) →
        fl.length = bd.fds.length ∧
        ∀ (j c : Nat), bd.fds[j]? = some c → ∃ x f, s.cells[c]? = some x ∧ fl[j]? = some f ∧
          lookupFd s.open x.fd = some f) := by
  obtain ⟨fl, h1, h2, h3⟩ := filesOf_spec s (rawFdsOf s bd.fds) (rawFdsOf_open hs hb)
  refine ⟨fl, h1, by simp [send, hb, hlive, h1], ?_⟩
  intro hunt
  obtain ⟨g1, g2⟩ := rawFdsOf_untaken s bd.fds hunt
  refine ⟨by rw [h2, g1], ?_⟩
  intro j c hj
  obtain ⟨x, hx, hraw⟩ := g2 j c hj
  obtain ⟨f, hf1, hf2⟩ := h3 j x.fd hraw
  exact ⟨x, f, hx, hf1, hf2⟩

/-- One message: when the message at the head of the socket is accepted, the new body
    gets — attached to itself and to no other body — one new cell per delivered file, in the same order as in
    the message (`m.files`, cut at the documented limit of 10): the `j`-th cell holds one reference to the
    fresh descriptor `s.nextFd + j`, which refers to the `j`-th open file of THAT message and is recorded as
    created by the library; the message's index bytes come with it; the rest of the socket (the other
    messages and their files) is untouched, as are all existing bodies, cells, handles and open descriptors. -/
theorem receive_same_files (s : State) (hs : Inv s) (m : Flight) (rest : List Flight)
    (hw : s.wire = m :: rest) (hv : m.valid = true) :
    (receive s).2 = .ok ∧ (receive s).1.wire = rest ∧
    ∃ cs, (receive s).1.bodies = s.bodies ++ [⟨cs, m.idx, true⟩] ∧
      cs.length = (m.files.take maxRecvFds).length ∧
      (∀ (j f : Nat), (m.files.take maxRecvFds)[j]? = some f → ∃ c, cs[j]? = some c ∧
        (receive s).1.cells[c]? = some (Cell.mk (s.nextFd + j) false 1) ∧
        lookupFd (receive s).1.open (s.nextFd + j) = some f ∧ (s.nextFd + j) ∈ (receive s).1.lib ∧
        (s.nextFd + j) ∉ keys s.open) ∧
      (∀ c, c ∈ cs → s.cells.length ≤ c) ∧
      (receive s).1.handles = s.handles ∧
      (∀ (c : Nat) (x : Cell), s.cells[c]? = some x → (receive s).1.cells[c]? = some x) ∧
      (∀ d f, lookupFd s.open d = some f → lookupFd (receive s).1.open d = some f) := by
  have hi := installAll_spec (m.files.take maxRecvFds)
    { s with wire := rest, deq := s.deq ++ [m.files.take maxRecvFds] } hs.bound
  simp only [receive, hw, hv, if_true]
  refine ⟨trivial, (same_installAll _ _).wire, _, by rw [hi.bodies], hi.len, fun j f hj => ?_, hi.fresh,
    hi.handles, hi.cells, hi.lookupMono⟩
  obtain ⟨c, h1, h2, h3, h4⟩ := hi.each j f hj
  exact ⟨c, h1, h2, h3, h4, fun hm => Nat.not_lt.2 (Nat.le_add_right _ j) (hs.bound _ hm)⟩

/-- A message that the decoder refuses after its descriptors were received (`unmarshal_next_message` fails):
    `get_next_message` returns an error, the message is consumed, and every descriptor that was installed for
    it has been closed again — the set of open descriptors, the bodies and the handles are as before. -/
theorem receive_refused_no_leak (s : State) (hs : Inv s) (m : Flight) (rest : List Flight)
    (hw : s.wire = m :: rest) (hv : m.valid = false) :
    (receive s).2 = .err ∧ (receive s).1.wire = rest ∧ (receive s).1.bodies = s.bodies ∧
    (receive s).1.handles = s.handles ∧ (∀ d, d ∈ keys (receive s).1.open ↔ d ∈ keys s.open) := by
  have h0 : Inv { s with wire := rest, deq := s.deq ++ [m.files.take maxRecvFds] } := hs.frame (fun _ => rfl)
  have hi := installAll_spec (m.files.take maxRecvFds) _ h0.bound
  have hws := same_installAll (m.files.take maxRecvFds) { s with wire := rest, deq := s.deq ++ [m.files.take maxRecvFds] }
  have hinv := inv_receive hs
  simp only [receive, hw, hv] at hinv ⊢
  obtain ⟨h1, h2, h4, _⟩ := dropRefs_restores h0 (by simpa using hinv) hi.handles hi.bodies hws.user hi.cells hi.fresh
  exact ⟨by simp, by simpa using (same_dropRefs _ _).wire.trans hws.wire, by simpa using h1, by simpa using h2,
    by simpa using h4⟩

/-- The association across any interleaving (`receive_same_files` is one receive): after ANY history of sends (by
    the client or by the peer) and receives, mixed with all other operations, the socket is a FIFO of whole
    messages: what is still in flight is exactly what was put in and not yet taken out, in order, and the `k`-th
    message taken out was handed (up to the limit of 10) the file list of the `k`-th message put in — the
    descriptors of one message are never attached to another one. -/
theorem per_message_fifo (ops : List Op) :
    (run State.init ops).wire.map (·.files) = (run State.init ops).enq.drop (run State.init ops).deq.length ∧
    (run State.init ops).deq =
      ((run State.init ops).enq.take (run State.init ops).deq.length).map (·.take maxRecvFds) := by
  have := fifo_run ops fifo_init
  exact ⟨this.wire, this.deq⟩

/-- Reading the `j`-th descriptor value of a live body whose index bytes say `i`:
    if `i` is not below the length of the descriptor list the result is an error and nothing changes
    (`BadFdIndex`); otherwise the caller gets a new handle on the `i`-th cell of THAT body's list — a clone
    (the `Arc` count goes up by one), no new descriptor, nothing else changes. -/
theorem unmarshal_index (s : State) (b j i : Nat) (bd : Body)
    (hb : s.bodies[b]? = some bd) (hlive : bd.live = true) (hi : bd.idx[j]? = some i) :
    (bd.fds.length ≤ i → unmarshalFd s b j = (s, .err)) ∧
    (∀ (c : Nat) (x : Cell), bd.fds[i]? = some c → s.cells[c]? = some x → 0 < x.refs →
      unmarshalFd s b j =
        ({ s with cells := s.cells.set c { x with refs := x.refs + 1 }, handles := s.handles ++ [some c] }, .ok)) := by
  constructor
  · intro hle
    have : bd.fds[i]? = none := List.getElem?_eq_none hle
    simp [unmarshalFd, hb, hlive, hi, this]
  · intro c x hc hx hr
    have : x.refs ≠ 0 := by omega
    simp [unmarshalFd, hb, hlive, hi, hc, incr, hx, this]

/-- After any history, every entry of every body's descriptor list (in particular: of a received message)
    is a living cell whose descriptor — unless somebody took it — is open, not closed, not caller-owned: the
    bound check of `unmarshal_index` is the only way `unmarshalFd` can fail, and the handle it returns is
    backed by an open descriptor. -/
theorem body_entries_alive (ops : List Op) (b i c : Nat) (bd : Body)
    (hb : (run State.init ops).bodies[b]? = some bd) (hc : bd.fds[i]? = some c) :
    ∃ x, (run State.init ops).cells[c]? = some x ∧ 0 < x.refs ∧
      (x.taken = false → x.fd ∈ keys (run State.init ops).open ∧ x.fd ∉ (run State.init ops).libClosed ∧
        x.fd ∉ (run State.init ops).user) :=
  live_cell (inv_all_histories ops) (refCount_pos_of_entry hb (List.mem_of_getElem? hc))

/-- A `dup` the kernel refuses (the process has no descriptor left: EMFILE / ENFILE) changes nothing at all — no cell,
    no descriptor, no reference count, neither table — and reports an error; a push whose `dup` is refused is a failed
    push (`Item.bad`), for which `push_fail_rolls_back` says that everything duplicated for the earlier elements is
    closed again. -/
theorem refused_dup_changes_nothing (s : State) (h : Nat) :
    (step s (.dupHandleFail h)).1 = s ∧ ((step s (.dupHandleFail h)).2 = .err ∨ (step s (.dupHandleFail h)).2 = .illegal) := by
  simp only [step]
  refine ⟨dupHandleFail_state s h, ?_⟩
  unfold dupHandleFail
  split <;> simp

/-- push two descriptors (one via a handle, one via `&dyn AsRawFd` nested anywhere), a third push that fails
    on a taken handle after one more `dup`, send, receive, take one of the received descriptors, drop
    everything -/
def demo : List Op :=
  [ .userOpen 7, .userOpen 8, .wrap 0,                 -- fd0 (file 7) in handle 0, fd1 (file 8) raw
    .cloneHandle 0, .newBody,
    .push 0 [.handle 0], .push 0 [.raw 1],             -- dups fd2 (file 7), fd3 (file 8); indices 0, 1
    .userOpen 9, .wrap 2, .cloneHandle 2, .take 3,     -- handle 2 is alive, its descriptor fd4 was taken
    .push 0 [.handle 0, .handle 2],                    -- dup fd5, then EmptyUnixFd: rollback closes fd5
    .send 0, .receive,                                 -- fd6 (file 7), fd7 (file 8) installed for body 1
    .unmarshalFd 1 1, .take 4,                         -- the second descriptor of the message: fd7, file 8
    .dropBody 0, .dropBody 1, .dropHandle 0, .dropHandle 1, .dropHandle 2 ]

example : ((runTrace State.init demo).map (·.2)) =
    [.ok, .ok, .ok, .ok, .ok, .ok, .ok, .ok, .ok, .ok, .fd (some 4), .err, .ok, .ok, .ok, .fd (some 7),
     .ok, .ok, .ok, .ok, .ok] := by decide +kernel

/-- the failed third push left the body with its two descriptors and indices 0, 1, and closed its duplicate -/
example : ((run State.init (demo.take 12)).bodies[0]?.map (fun b => (b.fds.length, b.idx))) = some (2, [0, 1]) ∧
    (run State.init (demo.take 12)).libClosed = [5] ∧
    keys (run State.init (demo.take 12)).open = [0, 1, 2, 3, 4] := by decide +kernel

/-- what travelled: UNIX_FDS = 2, files 7 and 8; the receiver's new descriptors 6, 7 refer to files 7, 8 -/
example : (run State.init (demo.take 13)).wire = [⟨[7, 8], 2, [0, 1], true⟩] ∧
    lookupFd (run State.init (demo.take 14)).open 6 = some 7 ∧
    lookupFd (run State.init (demo.take 14)).open 7 = some 8 := by decide +kernel

/-- at the end everything is dropped; open are exactly the caller-owned descriptors: fd1 (own), fd4 and fd7
    (taken); the library closed each of its other descriptors exactly once (and fd0, which the caller had
    handed to a `UnixFd`), and there was no error -/
example : AllDropped (run State.init demo) ∧ keys (run State.init demo).open = [1, 4, 7] ∧
    (run State.init demo).user = [1, 4, 7] ∧ (run State.init demo).libClosed = [5, 2, 3, 6, 0] ∧
    (run State.init demo).lib = [2, 3, 5, 6, 7] ∧ (run State.init demo).takenFds = [4, 7] ∧
    (run State.init demo).err = false := by
  unfold AllDropped
  decide +kernel

/-- an index beyond the list is an error: a peer message with one descriptor whose body says index 1 -/
example : ((runTrace State.init [.peerSend [3] [1, 0] true, .receive, .unmarshalFd 0 0, .unmarshalFd 0 1]).map (·.2)) =
    [.ok, .ok, .err, .ok] := by decide +kernel

end Rustbus.FdTable

#print axioms Rustbus.FdTable.inv_initial
#print axioms Rustbus.FdTable.inv_preserved
#print axioms Rustbus.FdTable.inv_all_histories
#print axioms Rustbus.FdTable.lib_descriptor_states
#print axioms Rustbus.FdTable.refs_exact
#print axioms Rustbus.FdTable.no_double_close
#print axioms Rustbus.FdTable.leak_free
#print axioms Rustbus.FdTable.caller_owned_changes
#print axioms Rustbus.FdTable.caller_owned_stays_open
#print axioms Rustbus.FdTable.held_handle_open
#print axioms Rustbus.FdTable.push_dups
#print axioms Rustbus.FdTable.push_raw_dups
#print axioms Rustbus.FdTable.push_many
#print axioms Rustbus.FdTable.push_fail_rolls_back
#print axioms Rustbus.FdTable.body_ops_spare_caller
#print axioms Rustbus.FdTable.unix_fds_header
#print axioms Rustbus.FdTable.receive_same_files
#print axioms Rustbus.FdTable.receive_refused_no_leak
#print axioms Rustbus.FdTable.per_message_fifo
#print axioms Rustbus.FdTable.unmarshal_index
#print axioms Rustbus.FdTable.body_entries_alive
#print axioms Rustbus.FdTable.refused_dup_changes_nothing
