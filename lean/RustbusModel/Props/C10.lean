import RustbusModel.Lemmas.SendWrite
import RustbusModel.Lemmas.HeaderMarshal
import RustbusModel.Lemmas.Serial
/-!
C10 — A message reaches the wire exactly once and intact under any short-write pattern.

All theorems quantify over every message (`hdr`, `body`, `fds` arbitrary lists: empty body, empty
descriptor list, any lengths), every list of caller steps (each `write_once` outcome chosen by the
kernel: `accept k` for any `k`, `eagain`, `fail`; suspend/resume anywhere) and, for `write`, every
list of loop events. `Ctx.start m serial` is the context `send_message` builds.
-/
namespace Rustbus.Send
open Rustbus Rustbus.Bytes

/-- Whatever the kernel and the caller do, the run never hits the slice panic, the
    counter never exceeds the total and is the sum of the counts `write_once` returned, and the bytes
    that reached the peer are exactly the first `bytes_sent` bytes of header ++ body: in order, nothing
    duplicated, nothing skipped. The next `sendmsg` is offered exactly the unsent rest (the two
    slices continue where the previous write stopped, also across the header/body seam), from the
    offsets `min(bytes_sent, |hdr|)` and `bytes_sent - |hdr|`. -/
theorem wire_is_prefix (m : Msg) (serial : Nat) (steps : List Step) :
    ∃ c w rs, run (Ctx.start m serial) Wire.empty steps = some (c, w, rs) ∧ c.msg = m ∧
      c.st.bytesSent ≤ m.total ∧
      c.st.bytesSent = sumCounts rs ∧
      w.bytes = (m.hdr ++ m.body).take c.st.bytesSent ∧
      ∃ o, offer m c.st = some o ∧
        o.hdrSlice ++ o.bodySlice = (m.hdr ++ m.body).drop c.st.bytesSent ∧
        w.bytes ++ (o.hdrSlice ++ o.bodySlice) = m.hdr ++ m.body ∧
        o.hdrOff = min c.st.bytesSent m.hdr.length ∧ o.bodyOff = c.st.bytesSent - m.hdr.length := by
  obtain ⟨w, rs, h1, hi⟩ := run_start m serial steps
  obtain ⟨o, ho, hcat, _, hoff, boff, _⟩ := offer_of_le hi.le
  refine ⟨_, w, rs, h1, rfl, hi.le, rfl, hi.bytes, o, ho, hcat, ?_, hoff, boff⟩
  rw [hi.bytes, hcat, List.take_append_drop]

/-- At every reachable point the descriptors are attached to the next `sendmsg`
    iff `bytes_sent = 0`, which is exactly when they have not been transferred yet; over any run they
    are transferred at most once — never while nothing was accepted, and exactly once (all of them,
    in order, with the very first byte of the message) as soon as at least one byte was accepted. -/
theorem fds_exactly_once (m : Msg) (serial : Nat) (steps : List Step) :
    ∃ c w rs, run (Ctx.start m serial) Wire.empty steps = some (c, w, rs) ∧
      (∃ o, offer m c.st = some o ∧ o.fds = if c.st.bytesSent = 0 then m.fds else []) ∧
      (c.st.bytesSent = 0 → w.transfers = []) ∧
      (0 < c.st.bytesSent → m.fds ≠ [] → w.transfers = [(0, m.fds)]) ∧
      (m.fds = [] → w.transfers = []) ∧
      w.transfers.length ≤ 1 := by
  obtain ⟨w, rs, h1, hi⟩ := run_start m serial steps
  obtain ⟨o, ho, _, hfds, _⟩ := offer_of_le hi.le
  refine ⟨_, w, rs, h1, ⟨o, ho, hfds⟩, ?_, ?_, ?_, ?_⟩ <;> rw [hi.transfers]
  · exact fun h0 => if_pos (Or.inl h0)
  · exact fun hpos hf => if_neg (fun h => h.elim (Nat.ne_of_gt hpos) hf)
  · exact fun hf => if_pos (Or.inr hf)
  · split <;> simp

/-- A `write_once` that fails (EAGAIN or any other error) changes neither the state nor what the peer has:
    the run continues exactly as if the failed call had not been made. So after a FIRST call that failed
    `bytes_sent` is still 0 and the descriptors are attached again on the retry — which is right, because
    the failed call transferred nothing. -/
theorem failed_call_is_invisible (m : Msg) (serial : Nat) (ev : Ev) (hev : ev = .eagain ∨ ev = .fail)
    (pre post : List Step) :
    ∃ r : Res, (r = .wouldBlock ∨ r = .error) ∧
      ∀ c w rs, run (Ctx.start m serial) Wire.empty (pre ++ post) = some (c, w, rs) →
        ∃ rs', run (Ctx.start m serial) Wire.empty (pre ++ .call ev :: post) = some (c, w, rs') ∧
          sumCounts rs' = sumCounts rs := by
  refine ⟨.wouldBlock, .inl rfl, ?_⟩
  have hz : ∀ d, (resOf d ev).count = 0 := by rcases hev with rfl | rfl <;> exact fun _ => rfl
  exact fun _ _ _ => run_insert_silent (inv_init m serial) hz

/-- EAGAIN on the very first call: state and wire are untouched and the retry offers the descriptors
    again together with the whole message. -/
theorem eagain_first_reattaches (m : Msg) (serial : Nat) :
    run (Ctx.start m serial) Wire.empty [.call .eagain] =
      some (Ctx.start m serial, Wire.empty, [.wouldBlock]) ∧
    offer m (Ctx.start m serial).st =
      some { hdrOff := 0, bodyOff := 0, hdrSlice := m.hdr, bodySlice := m.body, fds := m.fds } := by
  constructor
  · simp only [run, Ctx.start, step_silent (ev := .eagain) (inv_init m serial) rfl]
    rfl
  · simp [offer, Ctx.start]

/-- On every reachable state: `all_bytes_written` ⇔ `bytes_sent` is the total
    ⇔ the peer has received exactly header ++ body (and then the descriptors exactly once). -/
theorem complete_iff_all (m : Msg) (serial : Nat) (steps : List Step) :
    ∃ c w rs, run (Ctx.start m serial) Wire.empty steps = some (c, w, rs) ∧
      (allWritten m c.st = true ↔ c.st.bytesSent = m.hdr.length + m.body.length) ∧
      (c.st.bytesSent = m.hdr.length + m.body.length ↔ w.bytes = m.hdr ++ m.body) ∧
      (allWritten m c.st = true → 0 < m.total →
        w.transfers = if m.fds = [] then [] else [(0, m.fds)]) := by
  obtain ⟨w, rs, h1, hi⟩ := run_start m serial steps
  refine ⟨_, w, rs, h1, allWritten_iff m _, hi.complete_iff, ?_⟩
  exact fun ha hpos => hi.transfers_pos (Nat.lt_of_lt_of_eq hpos ((allWritten_iff m _).1 ha).symm)

/-- `write` reports completion only when everything was written: from the fresh context, for every
    sequence of loop events, `Ok(serial)` implies that the counter is the total, the peer has exactly
    header ++ body, the descriptors were transferred exactly once, and the `Drop` that
    `finish_if_ok` runs does not panic; `write` itself never panics. -/
theorem write_done_only_when_complete (m : Msg) (serial : Nat) (evs : List WEv) :
    (write m ⟨0, serial⟩ Wire.empty evs).1 ≠ .panic ∧
    ∀ s, (write m ⟨0, serial⟩ Wire.empty evs).1 = .done s →
      s = serial ∧
      (write m ⟨0, serial⟩ Wire.empty evs).2.1.bytesSent = m.total ∧
      (write m ⟨0, serial⟩ Wire.empty evs).2.2.1.bytes = m.hdr ++ m.body ∧
      (0 < m.total → (write m ⟨0, serial⟩ Wire.empty evs).2.2.1.transfers =
        if m.fds = [] then [] else [(0, m.fds)]) := by
  obtain ⟨hi, hp, hd⟩ := write_inv evs (inv_init m serial)
  refine ⟨hp, fun s hs => ?_⟩
  obtain ⟨k1, k2⟩ := hd s hs
  exact ⟨k1, k2, hi.complete_iff.1 k2, fun hpos => hi.transfers_pos (Nat.lt_of_lt_of_eq hpos k2.symm)⟩

/-- The same for a `write` on a context that was driven by hand, suspended and resumed before: from
    every reachable state, `Ok(s)` means `s` is the context's serial and the peer has the whole message. -/
theorem write_after_any_history (m : Msg) (serial : Nat) (steps : List Step) (evs : List WEv) :
    ∃ c w rs, run (Ctx.start m serial) Wire.empty steps = some (c, w, rs) ∧
      (write m c.st w evs).1 ≠ .panic ∧
      ∀ s, (write m c.st w evs).1 = .done s →
        s = serial ∧ (write m c.st w evs).2.2.1.bytes = m.hdr ++ m.body := by
  obtain ⟨w, rs, h1, hi⟩ := run_start m serial steps
  obtain ⟨gi, gp, gd⟩ := write_inv evs hi
  exact ⟨_, w, rs, h1, gp, fun s hs => ⟨(gd s hs).1, gi.complete_iff.1 (gd s hs).2⟩⟩

/-- Suspension is transparent: `resume` of `into_progress` gives back the same
    context; inserting a suspend/resume at ANY point of ANY history changes neither the final state,
    nor what the peer receives, nor the values returned; and running a history in two parts with a
    suspend/resume in between is the same as running it in one piece. Holds from every state. -/
theorem resume_continues (c : Ctx) (w : Wire) (a b : List Step) :
    resume c.msg (intoProgress c) = c ∧
    run c w (a ++ .suspend :: b) = run c w (a ++ b) ∧
    run c w (a ++ b) =
      (match run c w a with
       | none => none
       | some (c', w', rs) =>
         match run (resume c'.msg (intoProgress c')) w' b with
         | none => none
         | some (c'', w'', rs') => some (c'', w'', rs ++ rs')) := by
  refine ⟨rfl, ?_, run_append a b c w⟩
  rw [run_append, run_append]
  cases run c w a with
  | none => rfl
  | some p => simp only [run_suspend]

/-- The serial `send_message` chooses (the preset one, else the
    connection's counter, by C13's `sendSerial`) is the one marshalled into the header — bytes 8..12
    in the message's byte order — the one `serial()` reports at every point of every history, and the
    one `write` returns; and when `write` returns it, bytes 8..12 of what the PEER received decode to it. -/
theorem reported_serial_is_header_serial (conn conn' : Serial.Conn) (hm : Header.Msg) (fds : List Nat)
    (preset : Option Nat) (ctx : Ctx)
    (hp : ∀ p, preset = some p → p < 2 ^ 32)
    (h : sendMessage conn hm fds preset = .started ctx conn') :
    Serial.sendSerial conn preset = some (ctx.serial, conn') ∧
    (∀ p, preset = some p → ctx.serial = p) ∧ (preset = none → ctx.serial = conn.counter) ∧
    ctx.st.bytesSent = 0 ∧ ctx.msg.body = hm.body ∧ ctx.msg.fds = fds ∧
    Header.marshalHeader hm ctx.serial = some ctx.msg.hdr ∧
    valOf hm.bo (slice ctx.msg.hdr 8 4) = ctx.serial ∧
    (∀ steps, ∃ c w rs, run ctx Wire.empty steps = some (c, w, rs) ∧ c.serial = ctx.serial) ∧
    (∀ evs s, (write ctx.msg ctx.st Wire.empty evs).1 = .done s →
      s = ctx.serial ∧
      valOf hm.bo (slice (write ctx.msg ctx.st Wire.empty evs).2.2.1.bytes 8 4) = s) := by
  obtain ⟨s, hdr, hs, hh, rfl⟩ := sendMessage_started h
  have hlt : s < 256 ^ 4 := by
    rcases Serial.sendSerial_some hs with ⟨rfl, _⟩ | ⟨_, rfl, _, hc⟩
    · have := hp s rfl; omega
    · unfold Serial.u32Max at hc; omega
  refine ⟨hs, Serial.sendSerial_preset hs, ?_, rfl, rfl, rfl, hh,
    List.append_nil hdr ▸ Header.serial_in_frame hm s hdr [] hh hlt, ?_, ?_⟩
  · rintro rfl
    exact (Serial.allocSerial_some hs).1
  · intro steps
    obtain ⟨w, rs, h1, _⟩ := run_start ⟨hdr, hm.body, fds⟩ s steps
    exact ⟨_, w, rs, h1, rfl⟩
  · intro evs s' hd
    obtain ⟨k1, _, k3, _⟩ := (write_done_only_when_complete ⟨hdr, hm.body, fds⟩ s evs).2 s' hd
    refine ⟨k1, ?_⟩
    rw [k3, k1]
    exact Header.serial_in_frame hm s hdr hm.body hh hlt

/-- If every `sendmsg` takes at least one byte, `write` ends with `Ok(serial)`
    after at most `|hdr| + |body|` calls of `write_once` (one call for an empty message). -/
theorem write_terminates (m : Msg) (serial : Nat) (evs : List WEv)
    (hall : ∀ e ∈ evs, ∃ k, e = .io (.accept k) ∧ 1 ≤ k) (hlen : max 1 m.total ≤ evs.length) :
    (write m ⟨0, serial⟩ Wire.empty evs).1 = .done serial ∧
    (write m ⟨0, serial⟩ Wire.empty evs).2.2.2 ≤ max 1 (m.hdr.length + m.body.length) :=
  write_progress evs (inv_init m serial) hall _ (Nat.le_max_left ..) (Nat.le_max_right ..) hlen

/-- A kernel that answered "0 bytes taken" to a non-empty offer every time would keep `write` looping
    for ever — after any number of such answers it is still running in the same state. (Linux stream
    sockets block or return EAGAIN instead; assumption of the trusted base.) -/
theorem write_spins_on_zero_accepts (m : Msg) (serial n : Nat) (h : 0 < m.total) :
    write m ⟨0, serial⟩ Wire.empty (List.replicate n (.io (.accept 0))) =
      (.running, ⟨0, serial⟩, Wire.empty, n) :=
  write_zero_spins n (inv_init m serial) h

/-- `Drop` panics exactly for a partially sent message
    (`0 < bytes_sent < total` on every reachable state); the consuming functions `force_finish`,
    `into_progress`, `force_finish_on_error` never run it, and the drop that `write` performs on
    success (`finish_if_ok`) never panics. -/
theorem partial_drop_panics (m : Msg) (serial : Nat) (steps : List Step) :
    ∃ c w rs, run (Ctx.start m serial) Wire.empty steps = some (c, w, rs) ∧
      (exitPanics c .drop = true ↔ 0 < c.st.bytesSent ∧ c.st.bytesSent < m.total) ∧
      exitPanics c .forceFinish = false ∧ exitPanics c .intoProgress = false ∧
      exitPanics c .forceFinishOnError = false ∧
      (∀ evs, (write m c.st w evs).1 ≠ .panic) := by
  obtain ⟨w, rs, h1, hi⟩ := run_start m serial steps
  exact ⟨_, w, rs, h1, exitPanics_drop_iff hi.le, rfl, rfl, rfl, fun evs => (write_inv evs hi).2.1⟩

/-! ### non-vacuity: a concrete message (16-byte header, 5-byte body, two descriptors) -/

private def exHdr : List UInt8 := [108, 4, 1, 1, 5, 0, 0, 0, 7, 0, 0, 0, 0, 0, 0, 0]
private def exMsg : Msg := ⟨exHdr, [1, 2, 3, 4, 5], [10, 11]⟩

-- a short write that ends inside the header, a suspend/resume, one that ends exactly at the seam,
-- one that the kernel cuts to what is left
example : run (Ctx.start exMsg 7) Wire.empty
      [.call (.accept 3), .suspend, .call (.accept 13), .call .eagain, .call (.accept 100)] =
    some (⟨exMsg, ⟨21, 7⟩⟩, ⟨[[1, 2, 3, 4, 5], exHdr.drop 3, exHdr.take 3], [(0, [10, 11])]⟩,
          [.ok 3, .ok 13, .wouldBlock, .ok 5]) ∧
    Wire.bytes ⟨[[1, 2, 3, 4, 5], exHdr.drop 3, exHdr.take 3], [(0, [10, 11])]⟩ = exHdr ++ [1, 2, 3, 4, 5] := by
  decide +kernel

-- at the seam the header slice is empty and the body slice starts at 0; no descriptors any more
example : offer exMsg ⟨16, 7⟩ =
    some { hdrOff := 16, bodyOff := 0, hdrSlice := [], bodySlice := [1, 2, 3, 4, 5], fds := [] } := by
  decide +kernel

-- inside the header: rest of the header plus the whole body
example : offer exMsg ⟨3, 7⟩ =
    some { hdrOff := 3, bodyOff := 0, hdrSlice := exHdr.drop 3, bodySlice := [1, 2, 3, 4, 5], fds := [] } := by
  decide +kernel

-- EAGAIN first: nothing reaches the peer, the descriptors are offered again and arrive once
example : run (Ctx.start exMsg 7) Wire.empty [.call .eagain, .call .fail] =
    some (Ctx.start exMsg 7, Wire.empty, [.wouldBlock, .error]) := by decide +kernel
example : run (Ctx.start exMsg 7) Wire.empty [.call .eagain, .call (.accept 17), .call (.accept 1)] =
    some (⟨exMsg, ⟨18, 7⟩⟩, ⟨[[2], exHdr ++ [1]], [(0, [10, 11])]⟩, [.wouldBlock, .ok 17, .ok 1]) := by
  decide +kernel

-- a state that `send_message`/`write_once` can never produce does hit the slice panic
example : offer exMsg ⟨22, 7⟩ = none := by decide +kernel

-- `write`: completes after three calls; gives up on EAGAIN with the context partially sent (dropping
-- that context would panic, `force_finish_on_error` does not)
example : write exMsg ⟨0, 7⟩ Wire.empty [.io (.accept 8), .io (.accept 8), .io (.accept 8), .io (.accept 8)] =
    (.done 7, ⟨21, 7⟩, ⟨[[1, 2, 3, 4, 5], exHdr.drop 8, exHdr.take 8], [(0, [10, 11])]⟩, 3) := by
  decide +kernel
example : (write exMsg ⟨0, 7⟩ Wire.empty [.io (.accept 8), .io .eagain, .io (.accept 8)]).1 = .err .wouldBlock ∧
    exitPanics ⟨exMsg, ⟨8, 7⟩⟩ .drop = true ∧ exitPanics ⟨exMsg, ⟨8, 7⟩⟩ .forceFinishOnError = false ∧
    exitPanics ⟨exMsg, ⟨0, 7⟩⟩ .drop = false ∧ exitPanics ⟨exMsg, ⟨21, 7⟩⟩ .drop = false := by
  decide +kernel

-- `send_message` on a real header model: a signal without body, fresh serial 5 from the counter
private def exSignal : Header.Msg :=
  { bo := .le, typ := 4, flags := 0, replySerial := none,
    interface := some [97, 46, 98], destination := none, sender := none, member := some [77],
    path := some [47, 111], errorName := none, bodySig := [], body := [], nfds := 0 }

example : (match sendMessage ⟨5⟩ exSignal [] none with
    | .started ctx c => some (ctx.serial, c.counter, slice ctx.msg.hdr 8 4, ctx.msg.hdr.length)
    | _ => none) = some (5, 6, [5, 0, 0, 0], 64) := by decide +kernel

end Rustbus.Send

#print axioms Rustbus.Send.wire_is_prefix
#print axioms Rustbus.Send.fds_exactly_once
#print axioms Rustbus.Send.failed_call_is_invisible
#print axioms Rustbus.Send.eagain_first_reattaches
#print axioms Rustbus.Send.complete_iff_all
#print axioms Rustbus.Send.write_done_only_when_complete
#print axioms Rustbus.Send.write_after_any_history
#print axioms Rustbus.Send.resume_continues
#print axioms Rustbus.Send.reported_serial_is_header_serial
#print axioms Rustbus.Send.write_terminates
#print axioms Rustbus.Send.write_spins_on_zero_accepts
#print axioms Rustbus.Send.partial_drop_panics
