import RustbusModel.Lemmas.Body
/-!
C15 — Body builder and parser are transactional across push/fail/reset/get histories.

Model: `Model/Body.lean`. Builder (`MarshalledMessageBody`): every push entry point is `push`, all its items or nothing;
a history is a list of `Op` (pushes of any arity, each succeeding or failing at any inner item, and resets), and the
builder theorems hold for all of them. Parser (`MessageBodyParser`): `get`, the multi-gets `getMult`, the dynamic
`getParam`, over a position in the bytes and in the signature; the parser theorems hold at every position of every body.
`Model/BodyRollback.lean` is the push as the code performs it (onto the live buffers, truncated to the remembered lengths
on an error) with what a failing marshaller left behind universally quantified (`Junk`); `rollback_makes_push_atomic`
ties it to the atomic `push`. Assumed: a marshaller, failing or not, only appends to the three buffers (DESIGN §12).
-/
namespace Rustbus.Body
open Rustbus Rustbus.Bytes Rustbus.Wire Rustbus.Marshal Rustbus.Spec.Wire

/-- A push that returns an error leaves no trace: bytes, signature and descriptors are exactly as before. -/
theorem failed_push_no_trace (b : Body) (items : List Item) (h : (push b items).2 = false) :
    (push b items).1 = b := by
  unfold push at *
  cases hp : pushAll b items with
  | none => rfl
  | some b' => rw [hp] at h; cases h

/-- The rollback mechanism (`truncate` to the snapshot lengths) restores the snapshot from ANY state that
    merely extends it. That a marshaller, successful or not, only appends to the three buffers is proved for the
    model's successful pushes (`push_only_appends`) and otherwise assumed (DESIGN §12: the engine's audit). -/
theorem rollback_restores (b d : Body) (h : Extends b d) : rollback b d = b := by
  obtain ⟨bo, buf, sig, n⟩ := b
  obtain ⟨bo', buf', sig', n'⟩ := d
  dsimp only [Extends] at h
  obtain ⟨rfl, ⟨x, rfl⟩, ⟨y, rfl⟩, hn⟩ := h
  simp only [rollback, List.take_left, Nat.min_eq_right hn]

/-- Every successful push only appends: the previous bytes, signature and descriptors are a prefix of the
    new ones (so earlier parameters are never disturbed). -/
theorem push_only_appends (b b' : Body) (items : List Item) (h : pushAll b items = some b') : Extends b b' :=
  pushAll_extends h

/-- The rollback is what makes a failed push traceless. The mechanism as written - push onto the live body, on an error
    truncate bytes, signature and descriptor list to the remembered lengths - is the atomic `push` of the model, WHATEVER a
    failing marshaller left behind: on success the body is the pushed one, on failure it is exactly the body before the
    call. -/
theorem rollback_makes_push_atomic (b : Body) (j : Junk) (items : List Item) :
    pushWithRollback b j items = push b items := by
  unfold pushWithRollback push
  have hd := pushDirty_spec j items b
  cases hp : pushAll b items with
  | some b' => rw [hp] at hd; rw [hd]
  | none =>
    rw [hp] at hd
    obtain ⟨d, hd, he⟩ := hd
    rw [hd]
    exact congrArg (·, false) (rollback_restores b d he)

/-- A reset leaves nothing attached. -/
theorem reset_empty (b : Body) : step b .reset = Body.empty b.bo := rfl

private theorem run_bo (b : Body) (ops : List Op) : (run b ops).bo = b.bo := by
  induction ops generalizing b with
  | nil => rfl
  | cons op ops ih => exact (ih _).trans (step_bo b op)

/-- After ANY history of pushes (of any arity, succeeding or failing at any inner element) and resets, the
    body is exactly what replaying the successful pushes since the last reset on an empty body gives:
    bytes, signature and descriptor count together. -/
theorem body_is_replay (bo : ByteOrder) (ops : List Op) :
    pushAll (Body.empty bo) (effective (Body.empty bo) [] ops) = some (run (Body.empty bo) ops) :=
  replay_from bo ops _ [] rfl

/-- The bytes and signature of a body built from plain values are exactly the concatenated encodings and
    the concatenated signatures of those values (C02's `enc`), i.e. they *describe* the pushed values. -/
theorem body_describes_pushed (bo : ByteOrder) (ps : List (Ty × Val)) (b : Body)
    (h : pushAll (Body.empty bo) (plainItems ps) = some b) :
    encFields bo 0 (itemsTypes ps) (itemsVals ps) = some b.buf ∧ b.sig = Ty.listToStr (itemsTypes ps) :=
  let ⟨h1, h2, _, _⟩ := pushAll_plain_eq.mp h
  ⟨h1, h2⟩

/-- A failed single or multi-value get leaves the parser where it was. -/
theorem get_fail_unchanged (b : Body) (p : Parser) (ts : List Ty) (e : GetErr)
    (h : (getMult b p ts).1 = .error e) : (getMult b p ts).2 = p := by
  unfold getMult at *
  by_cases hlen : ts.length > sigsLeft b p
  · rw [if_pos hlen]
  · rw [if_neg hlen] at h ⊢
    cases hg : getAll b p ts with
    | error e' => rfl
    | ok r => rw [hg] at h; cases h

theorem getParam_fail_unchanged (b : Body) (p : Parser) (e : GetErr)
    (h : (getParam b p).1 = .error e) : (getParam b p).2 = p := by
  unfold getParam at *
  split
  · rfl
  · split
    · split
      · simp_all
      · rfl
    · rfl

/-- A successful get advances by exactly the value returned: the signature index by the length of the
    type's signature, the byte index to the end of the decoded value (at least one byte). -/
theorem get_ok_advances (b : Body) (p p' : Parser) (t : Ty) (v : Val) (h : get b p t = .ok (v, p')) :
    p'.sigIdx = p.sigIdx + t.toStr.length ∧ p.bufIdx < p'.bufIdx ∧ p'.bufIdx ≤ b.buf.length ∧
    dec b.bo b.buf (some b.nfds) maxDepth t p.bufIdx b.buf.length = some (v, p'.bufIdx) ∧
    enc b.bo p.bufIdx t v = some (slice b.buf p.bufIdx (p'.bufIdx - p.bufIdx)) := by
  obtain ⟨-, h1, hd⟩ := get_ok_iff.1 h
  obtain ⟨h2, h3, -, h4, -⟩ := enc_dec hd
  exact ⟨h1, h2, h3, hd, h4⟩

/-- A successful multi-get (`get2`..`get5`) is the same as getting the values one by one (so each step advances as
    `get_ok_advances` says): one value per requested type, the signature index advanced by the lengths of their
    signatures, the byte index moved forward, strictly if anything was asked for. -/
theorem getMult_ok_advances (b : Body) (p p' : Parser) (ts : List Ty) (vs : List Val)
    (h : getMult b p ts = (.ok vs, p')) :
    getAll b p ts = .ok (vs, p') ∧ vs.length = ts.length ∧
    p'.sigIdx = p.sigIdx + (ts.map (fun t => t.toStr.length)).sum ∧ p.bufIdx ≤ p'.bufIdx ∧
    (ts ≠ [] → p.bufIdx < p'.bufIdx) := by
  unfold getMult at h
  split at h
  · cases h
  · split at h
    · rename_i vs' p'' ha
      cases h
      exact ⟨ha, getAll_ok_advances ha⟩
    · cases h

/-- A successful dynamic get returns a value the decoder reads at the parser's position and advances by exactly that
    value and by the next piece `s` of the signature. (That the returned type is the one `s` denotes is how `getParam`
    picks it, but not part of this statement.) -/
theorem getParam_ok_advances (b : Body) (p p' : Parser) (t : Ty) (v : Val) (h : getParam b p = (.ok (t, v), p')) :
    ∃ s, nextSig b p = some s ∧ p'.sigIdx = p.sigIdx + s.length ∧ p.bufIdx < p'.bufIdx ∧ p'.bufIdx ≤ b.buf.length ∧
      dec b.bo b.buf (some b.nfds) maxDepth t p.bufIdx b.buf.length = some (v, p'.bufIdx) := by
  unfold getParam at h
  split at h
  · cases h
  · rename_i s hn
    split at h
    · split at h
      · rename_i hd
        cases h
        obtain ⟨h1, h2, -⟩ := dec_bounds hd
        exact ⟨s, hn, rfl, h1, h2, hd⟩
      · cases h
    · cases h

/-- Requesting a type that does not match the next signature is an error rather than a misread: for a body with a
    valid signature and a parser that stands at the start of one of its types. -/
theorem get_mismatch_errors (b : Body) (ts₁ ts₂ : List Ty) (t t' : Ty)
    (hsig : Spec.Sig.Denotes b.sig (ts₁ ++ t :: ts₂)) (p : Parser)
    (hp : p.sigIdx = (Ty.listToStr ts₁).length) (hne : t'.toStr ≠ t.toStr) :
    get b p t' = .error .wrongSignature := by
  obtain ⟨-, hs, -⟩ := hsig
  rw [Sig.listToStr_append] at hs
  exact get_wrongSignature (nextSig_at (t := t) (by rw [hs, hp, List.drop_left]; rfl)) (Ne.symm hne)

/-- Whole-body round trip through the builder and the parser, for bodies of `push_param` values that contain no
    descriptors and nest at most 64 deep. -/
theorem builder_parser_roundtrip (bo : ByteOrder) (ps : List (Ty × Val)) (b : Body)
    (hb : pushAll (Body.empty bo) (plainItems ps) = some b)
    (hsig : Spec.Sig.Denotes b.sig (itemsTypes ps))
    (hd : ∀ p ∈ ps, depthOf p.1 p.2 ≤ maxDepth ∧ fdsBelow 0 p.1 p.2 = true) :
    getAll b ⟨0, 0⟩ (itemsTypes ps) = .ok (itemsVals ps, ⟨b.buf.length, b.sig.length⟩) := by
  have _ := hsig  -- not used: `hb` determines the signature
  exact parser_roundtrip bo ps b hb hd

end Rustbus.Body

#print axioms Rustbus.Body.failed_push_no_trace
#print axioms Rustbus.Body.rollback_restores
#print axioms Rustbus.Body.push_only_appends
#print axioms Rustbus.Body.reset_empty
#print axioms Rustbus.Body.body_is_replay
#print axioms Rustbus.Body.body_describes_pushed
#print axioms Rustbus.Body.get_fail_unchanged
#print axioms Rustbus.Body.getParam_fail_unchanged
#print axioms Rustbus.Body.get_ok_advances
#print axioms Rustbus.Body.get_mismatch_errors
#print axioms Rustbus.Body.builder_parser_roundtrip
#print axioms Rustbus.Body.getMult_ok_advances
#print axioms Rustbus.Body.getParam_ok_advances
#print axioms Rustbus.Body.rollback_makes_push_atomic
