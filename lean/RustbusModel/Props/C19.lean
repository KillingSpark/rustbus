import RustbusModel.Lemmas.DispatchRoutes
/-!
C19 — Dispatch routes each call to the matching handler and replies exactly once.

One iteration of `DispatchConn::run` is `step`, the loop over a history is `Runs`, in which the `HashMap` may present
the route table in ANY iteration order before every message.
-/
namespace Rustbus.Dispatch
open Spec

variable {H : Type}

/-- `split('/')` as modelled yields exactly the slash-separated segments of a string: at least one,
    none containing a slash, and joining them with slashes gives the string back. -/
theorem split_spec (s : List Char) (segs : List Seg) : Segments s segs ↔ segs = splitSlash s := by
  constructor
  · rintro ⟨hne, hns, rfl⟩
    cases segs with
    | nil => contradiction
    | cons g gs => simpa [splitSlash] using (splitAux_joinSlash g gs [] hns).symm
  · rintro rfl
    exact ⟨splitSlash_ne_nil s, splitAux_noslash [] s (by simp), joinSlash_splitAux [] s⟩

/-- `ObjectPathPattern::new`, for every pattern string: the pattern has one part per slash-separated
    segment; a segment starting with ':' is a named capture (the name keeps the colon), the segment
    "*" is the wildcard, everything else is a literal. In particular a pattern is never empty. -/
theorem pattern_new_spec (p : List Char) (parts : List PathPart) :
    (patternNew p = parts ↔ ∃ segs, Segments p segs ∧ AllPairs PartOf segs parts) ∧ patternNew p ≠ [] := by
  refine ⟨?_, patternNew_ne_nil p⟩
  simp only [split_spec, allPairs_iff_map classify_iff, exists_eq_left, patternNew]

/-- `ObjectPathPattern::matches`, for ALL patterns and ALL query strings: it returns `Some(captures)`
    iff the pattern matches the path segment by segment (literal segments equal, named segments
    capture, a wildcard matches one segment or, as the last part, any non-empty tail), and then the
    capture map holds exactly the captured segments: every name maps to the segment captured under it
    (the last one for a repeated name), there is no other entry and no key twice. The captures of the
    relation are unique. -/
theorem matches_iff_spec (pat : Pattern) (q : List Char) :
    (∀ caps, patMatches pat q = some caps →
        ∃ b, Matches pat (splitSlash q) b ∧ (∀ k, assocGet k caps = lastBound b k) ∧
          (caps.map (·.1)).Nodup) ∧
    (∀ b, Matches pat (splitSlash q) b →
        ∃ caps, patMatches pat q = some caps ∧ ∀ k, assocGet k caps = lastBound b k) ∧
    (∀ b b', Matches pat (splitSlash q) b → Matches pat (splitSlash q) b' → b = b') := by
  refine ⟨?_, ?_, fun b b' h h' => matches_binds_unique h h'⟩
  · intro caps h
    obtain ⟨b, hm, rfl⟩ := patMatches_iff.mp h
    exact ⟨b, hm, assocGet_applyBinds b, keysNodup_applyBinds b⟩
  · intro b hm
    exact ⟨_, patMatches_iff.mpr ⟨b, hm, rfl⟩, assocGet_applyBinds b⟩

/-- One dispatch step, for every route table (in whatever order it is iterated) and every message:
    exactly one handler is invoked; if it is a registered route then the message has an object path,
    the route's pattern matches that path, and the handler is given exactly the captures of that match;
    otherwise it is the default handler, with empty captures, and either the message has no object
    path or no registered pattern matches it. -/
theorem handler_is_a_match_or_default (rs : Routes H) (ev : Event H) :
    ∃ who caps, (step rs ev).invoked = [(who, caps)] ∧
      match who with
      | .route h => ∃ obj pat b, ev.msg.object = some obj ∧ (pat, h) ∈ rs ∧
          Matches pat (splitSlash obj) b ∧ ∀ k, assocGet k caps = lastBound b k
      | .default => caps = [] ∧
          (ev.msg.object = none ∨
            ∃ obj, ev.msg.object = some obj ∧ ∀ e ∈ rs, ¬ ∃ b, Matches e.1 (splitSlash obj) b) := by
  refine ⟨(select rs ev.msg).1, (select rs ev.msg).2, step_invoked rs ev, ?_⟩
  rcases select_cases rs ev.msg with ⟨obj, p, h, caps, ho, hmem, hp, hs⟩ | ⟨hs, hno⟩
  · rw [hs]
    obtain ⟨b, hm, hk, _⟩ := (matches_iff_spec p obj).1 caps hp
    exact ⟨obj, p, b, ho, hmem, hm, hk⟩
  · rw [hs]
    refine ⟨rfl, hno.imp_right fun ⟨obj, ho, hn⟩ => ⟨obj, ho, fun e he ⟨b, hm⟩ => ?_⟩⟩
    obtain ⟨caps, hc, _⟩ := (matches_iff_spec e.1 obj).2.1 b hm
    exact absurd (hn e he ▸ hc) nofun

/-- When exactly one registered pattern matches the object path (the table being a map, as a
    `HashMap` is), the handler registered for it is the one invoked - for EVERY iteration order of the
    table - and it is given the captures of that match. -/
theorem unique_match_is_called (rs : Routes H) (hnd : KeysNodup rs) (ev : Event H) (obj : List Char)
    (pat : Pattern) (h : H) (b : List (Seg × Seg))
    (hobj : ev.msg.object = some obj) (hmem : (pat, h) ∈ rs) (hm : Matches pat (splitSlash obj) b)
    (huniq : ∀ e ∈ rs, (∃ b', Matches e.1 (splitSlash obj) b') → e.1 = pat) :
    ∀ seen : Routes H, seen.Perm rs →
      ∃ caps, (step seen ev).invoked = [(.route h, caps)] ∧ ∀ k, assocGet k caps = lastBound b k := by
  intro seen hp
  obtain ⟨who, caps, hinv, hwho⟩ := handler_is_a_match_or_default seen ev
  cases who with
  | default =>
    obtain ⟨-, hno | ⟨obj', ho', hno⟩⟩ := hwho
    · rw [hobj] at hno; cases hno
    · rw [hobj] at ho'; cases ho'
      exact absurd ⟨b, hm⟩ (hno _ (hp.mem_iff.mpr hmem))
  | route h' =>
    obtain ⟨obj', pat', b', ho', hmem', hm', hk⟩ := hwho
    rw [hobj] at ho'; cases ho'
    replace hmem' := hp.mem_iff.mp hmem'
    cases huniq _ hmem' ⟨b', hm'⟩
    cases matches_binds_unique hm' hm
    cases Option.some.inj (((routeOf_isLookup.mem_iff hnd).mp hmem').symm.trans
      ((routeOf_isLookup.mem_iff hnd).mp hmem))
    exact ⟨caps, hinv, hk⟩

/-- The judgement the driver uses for the choice a real `HashMap` made: `legalChoice` holds exactly
    for the choices that `get_match` produces under SOME iteration order of the table. -/
theorem legal_iff_some_order [DecidableEq H] (rs : Routes H) (q : List Char) (hdr : Serial.Hdr)
    (c : Chosen H) :
    legalChoice rs q c = true ↔
      ∃ seen : Routes H, seen.Perm rs ∧ (select seen { hdr := hdr, object := some q }).1 = c := by
  cases c with
  | default =>
    simp only [legalChoice, List.all_eq_true, Option.isNone_iff_eq_none]
    constructor
    · exact fun hall => ⟨rs, .refl _, by simp only [select, getMatch_eq_none_iff.mpr hall]⟩
    · rintro ⟨seen, hp, hs⟩ e he
      rcases select_cases seen ⟨hdr, some q⟩ with ⟨_, _, _, _, _, _, _, hs'⟩ | ⟨_, ho | ⟨_, ho, hn⟩⟩
      · rw [hs'] at hs; cases hs
      · cases ho
      · cases ho; exact hn e (hp.mem_iff.mpr he)
  | route h =>
    simp only [legalChoice, List.any_eq_true, Bool.and_eq_true, decide_eq_true_eq]
    constructor
    · rintro ⟨⟨p, g⟩, he, rfl, hsome⟩
      obtain ⟨caps, hc⟩ := Option.isSome_iff_exists.mp hsome
      exact ⟨_, (List.perm_cons_erase he).symm, by simp only [select, getMatch_cons_of_match hc]⟩
    · rintro ⟨seen, hp, hs⟩
      rcases select_cases seen ⟨hdr, some q⟩ with ⟨_, p, h', _, ho, hmem, hpm, hs'⟩ | ⟨hs', _⟩
      · cases ho; rw [hs'] at hs
        exact ⟨(p, h'), hp.mem_iff.mp hmem, Chosen.route.inj hs, by rw [hpm]; rfl⟩
      · rw [hs'] at hs; cases hs

/-- Over ALL histories of incoming messages, handler behaviours and iteration orders: there is one
    loop iteration per message, and in each of them exactly one handler is invoked and - when it
    returned `Ok` and the send succeeded - exactly one message is written: the handler's own reply, or
    for `Ok(None)` an empty method return whose reply serial is the call's serial and whose
    destination is the call's sender. A handler error writes nothing and ends the loop
    (`ReplyOk`). -/
theorem exactly_one_reply {rs final : Routes H} {evs : List (Event H)} {outs : List (StepOut H)}
    (h : Runs rs evs outs final) : AllPairs ReplyOk evs outs :=
  runs_allPairs step_replyOk h

/-- Over all histories: every message is given to exactly one handler (one invocation per loop
    iteration, as many iterations as messages), and every iteration is a `step` on its message from
    some table `seen`, so that `handler_is_a_match_or_default` says who the handler is. That `seen` is
    the table of that moment in some iteration order is not said here: see `routes_merge_iff_ok`. -/
theorem one_handler_per_message {rs final : Routes H} {evs : List (Event H)} {outs : List (StepOut H)}
    (h : Runs rs evs outs final) :
    outs.length = evs.length ∧
    AllPairs (fun ev out => out.invoked.length = 1 ∧ ∃ seen, out = step seen ev) evs outs :=
  ⟨runs_length h, runs_allPairs (fun seen ev => ⟨by rw [step_invoked]; rfl, seen, rfl⟩) h⟩

/-- Over all histories (initial table a map): the table `seen` that the loop consults for a message
    `ev` - after the messages `pre`, before the messages `post` - is, as a set of (pattern, handler)
    entries, exactly: the initial table overridden by the registrations made by the handlers of
    earlier messages that returned `Ok` (`okAdds`; per pattern the most recent wins). So a route added
    by a successful handler applies to every later message until a later successful registration of
    the same pattern replaces it, and a registration made by a handler that returned `Err` is in no
    later table - also not after `run` has been called again. -/
theorem routes_merge_iff_ok {rs final : Routes H} {pre post : List (Event H)} {ev : Event H}
    {outs : List (StepOut H)} (hnd : KeysNodup rs) (h : Runs rs (pre ++ ev :: post) outs final) :
    ∃ outsPre out outsPost seen, outs = outsPre ++ out :: outsPost ∧ outsPre.length = pre.length ∧
      out = step seen ev ∧
      ∀ pat hdl, (pat, hdl) ∈ seen ↔
        (lastAdd (okAdds pre outsPre) pat).or (routeOf pat rs) = some hdl := by
  obtain ⟨o1, o2, mid, rfl, hl, h1, h2⟩ := runs_split pre h
  cases h2 with
  | @cons _ seen _ _ outs' _ hp hrest =>
    refine ⟨o1, _, outs', seen, rfl, hl, rfl, ?_⟩
    obtain ⟨hmid, htab⟩ := runs_table h1 hnd
    intro pat hdl
    rw [routeOf_isLookup.mem_iff (keysNodup_perm hp hmid), routeOf_isLookup.perm hp hmid, htab]

/-- Consequence, stated directly: every entry of a table consulted later comes from the initial
    table or from a registration made by a handler that returned `Ok`; nothing else ever gets in. -/
theorem failing_handler_routes_never_apply {rs final : Routes H} {pre post : List (Event H)}
    {ev : Event H} {outs : List (StepOut H)} (hnd : KeysNodup rs)
    (h : Runs rs (pre ++ ev :: post) outs final) :
    ∃ outsPre out outsPost seen, outs = outsPre ++ out :: outsPost ∧ outsPre.length = pre.length ∧
      out = step seen ev ∧ ∀ e ∈ seen, e ∈ rs ∨ e ∈ okAdds pre outsPre := by
  obtain ⟨o1, out, o3, seen, h1, h2, h3, h4⟩ := routes_merge_iff_ok hnd h
  refine ⟨o1, out, o3, seen, h1, h2, h3, ?_⟩
  rintro ⟨pat, hdl⟩ he
  rcases Option.or_eq_some_iff.mp ((h4 pat hdl).mp he) with hl | ⟨_, hr⟩
  · exact .inr (by simpa using routeOf_isLookup.mem_of_eq_some hl)
  · exact .inl (routeOf_isLookup.mem_of_eq_some hr)

/-- Registrations through `add_handler` / `PathMatcher::insert` keep the table a map, so the
    hypothesis `KeysNodup` above holds for every table a program can build. -/
theorem tables_are_maps (regs : List (List Char × H)) :
    KeysNodup (regs.foldl (fun rs r => pmInsert rs r.1 r.2) ([] : Routes H)) :=
  keysNodup_newDispatches regs

/-- The function the driver executes is one of the runs the theorems above quantify over. -/
theorem runAll_is_a_run (rs : Routes H) (evs : List (Event H)) :
    Runs rs evs (runAll rs evs).1 (runAll rs evs).2 := by
  induction evs generalizing rs with
  | nil => exact Runs.nil rs
  | cons ev evs ih => exact Runs.cons (List.Perm.refl rs) (ih _)

-- "/a/:x/*" against "/a/b/c/d": matched through the wildcard tail, one capture
example : patMatches (patternNew "/a/:x/*".toList) "/a/b/c/d".toList = some [(":x".toList, "b".toList)] := by
  -- a string literal is `String.ofList […]`: the rewrite leaves the list itself, which the kernel evaluates much
  -- faster than `toList` of the literal
  repeat rw [String.toList_ofList]
  decide +kernel
-- a repeated name keeps the last capture
example : patMatches (patternNew "/:x/:x".toList) "/a/b".toList = some [(":x".toList, "b".toList)] := by
  repeat rw [String.toList_ofList]
  decide +kernel
-- too short, too long without trailing wildcard, wildcard in the middle matches exactly one segment
example : patMatches (patternNew "/a/b".toList) "/a".toList = none := by
  repeat rw [String.toList_ofList]
  decide +kernel
example : patMatches (patternNew "/a".toList) "/a/b".toList = none := by
  repeat rw [String.toList_ofList]
  decide +kernel
example : patMatches (patternNew "/*/b".toList) "/a/a/b".toList = none := by
  repeat rw [String.toList_ofList]
  decide +kernel
-- the relation itself is inhabited in all its constructors
example : Matches [.exact [], .exact ['a'], .as [':', 'x'], .all] [[], ['a'], ['b'], ['c'], ['d']]
    [([':', 'x'], ['b'])] :=
  .literal _ (.literal _ (.named _ _ (.wildTail _ _ (List.cons_ne_nil _ _))))
example : Matches [.all, .exact ['b']] [['a'], ['b']] [] := .wildOne _ (.literal _ .done)

private def hdrOf (serial : Nat) : Serial.Hdr :=
  { serial := some serial, sender := some ":1.5".toList, destination := none, replySerial := none,
    errorName := none, isError := false }

/-- a history: message 1 (default handler, `Ok(None)`) registers "/a" → 7; message 2 (handler 7
    fails) tries to register "/b" → 8; message 3 on "/b" still gets the default handler -/
private def demo : List (Event Nat) :=
  [ { msg := ⟨hdrOf 11, some "/a".toList⟩, behave := fun _ _ => ⟨.empty, [("/a".toList, 7)]⟩, sendOk := true },
    { msg := ⟨hdrOf 12, some "/a".toList⟩, behave := fun _ _ => ⟨.err, [("/b".toList, 8)]⟩, sendOk := true },
    { msg := ⟨hdrOf 13, some "/b".toList⟩, behave := fun _ _ => ⟨.empty, []⟩, sendOk := true } ]

example : ((runAll ([] : Routes Nat) demo).1.map (fun o => o.invoked.map (·.1))) =
    [[.default], [.route 7], [.default]] := by decide +kernel
example : ((runAll ([] : Routes Nat) demo).1.map (fun o => o.written.map (fun r => (r.replySerial, r.destination)))) =
    [[(some 11, some ":1.5".toList)], [], [(some 13, some ":1.5".toList)]] := by decide +kernel
example : ((runAll ([] : Routes Nat) demo).1.map (·.ended)) = [.continues, .handlerErr, .continues] := by
  decide +kernel

end Rustbus.Dispatch

#print axioms Rustbus.Dispatch.split_spec
#print axioms Rustbus.Dispatch.pattern_new_spec
#print axioms Rustbus.Dispatch.matches_iff_spec
#print axioms Rustbus.Dispatch.handler_is_a_match_or_default
#print axioms Rustbus.Dispatch.unique_match_is_called
#print axioms Rustbus.Dispatch.legal_iff_some_order
#print axioms Rustbus.Dispatch.exactly_one_reply
#print axioms Rustbus.Dispatch.one_handler_per_message
#print axioms Rustbus.Dispatch.routes_merge_iff_ok
#print axioms Rustbus.Dispatch.failing_handler_routes_never_apply
#print axioms Rustbus.Dispatch.tables_are_maps
#print axioms Rustbus.Dispatch.runAll_is_a_run
