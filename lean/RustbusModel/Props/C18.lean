import RustbusModel.Lemmas.LimitsDecT
import RustbusModel.Lemmas.LimitsDec
import RustbusModel.Lemmas.LimitsSend
import RustbusModel.Lemmas.LimitsRecv
import RustbusModel.Lemmas.Send
import RustbusModel.Props.C01
import RustbusModel.Model.MarshalParam
import RustbusModel.Props.C03
/-!
C18 — Spec size and depth limits are enforced before resources are committed.

RECEIVE: `Header.bytesNeeded` models `RecvConn::bytes_needed_for_current_message`, `Recv.run` the receive loop
(`refill_buffer` growing the buffer in 64 KiB steps) over an explicit kernel/peer.
DECODE: `Wire.dec` models `validate_raw`, the Param and the typed unmarshallers (tied to all three by the
correspondence run); `Limits.decT` is the same decoder instrumented with the highest byte index it looked at.
SEND: `Wire.enc` / `Marshal.marshalM` model the marshallers (C02), `Header.marshalHeader` models
`marshal::marshal`, `Send.sendMessage` models `SendConn::send_message`.
Limits: `maxArrayLen` = 64 MiB, `maxMessageLen` = 128 MiB, `maxDepth` = 64, `maxGrowth` = 64 KiB.
What a theorem cannot show - the allocations the real code performs - is measured by the engine with a
counting allocator.
-/
namespace Rustbus.Limits
open Rustbus Rustbus.Bytes Rustbus.Wire Rustbus.Spec.Wire Rustbus.Header Rustbus.Spec.Header Rustbus.Recv

/-- The announcement check is exact. With `F` the field array length word and `B` the body length word of a
    valid fixed header (both read in the header's byte order): the header is refused as too long **iff**
    `F > 64 MiB` or `16 + F + padding + B > 128 MiB`; otherwise exactly `16 + F + padding + B` bytes are asked
    for; it is never reported as invalid. -/
theorem announcement_limit (buf : List UInt8) (h16 : 16 ≤ buf.length) (fx : Fixed)
    (hfx : decodeFixed buf = some fx) :
    bytesNeeded buf = announce (valOf fx.bo (slice buf 12 4)) fx.bodyLen ∧
    (bytesNeeded buf = .tooLong ↔
      (valOf fx.bo (slice buf 12 4) > maxArrayLen ∨
       16 + valOf fx.bo (slice buf 12 4) + padLen 8 (16 + valOf fx.bo (slice buf 12 4)) + fx.bodyLen >
         maxMessageLen)) ∧
    (∀ n, bytesNeeded buf = .bytes n →
      n = 16 + valOf fx.bo (slice buf 12 4) + padLen 8 (16 + valOf fx.bo (slice buf 12 4)) + fx.bodyLen ∧
      valOf fx.bo (slice buf 12 4) ≤ maxArrayLen ∧ n ≤ maxMessageLen) := by
  rw [bytesNeeded_eq_announce buf h16 fx hfx]
  exact ⟨rfl, announce_tooLong_iff _ _, fun _ h => announce_bytes h⟩

/-- The announcement check for ALL 2^32 values of both length words, both byte orders, every type/flags/serial, whatever
    follows the 16 bytes: the outcome is the function `announce F B` of the two announced lengths alone. -/
theorem announcement_limit_all_lengths (fx : Fixed) (hok : fixedOk fx) (F : Nat) (hF : F < 256 ^ 4)
    (rest : List UInt8) :
    bytesNeeded (fixedBytes fx ++ (bytesOf fx.bo 4 F ++ rest)) = announce F fx.bodyLen :=
  bytesNeeded_fixedBytes fx hok F hF rest

/-- A header whose fixed part is not valid (endianness flag, message type, version, serial 0) is
    refused as invalid as soon as 16 bytes are there. -/
theorem invalid_header_refused (buf : List UInt8) (h16 : 16 ≤ buf.length) (h : decodeFixed buf = none) :
    bytesNeeded buf = .invalid :=
  bytesNeeded_invalid h16 h

/-- An invalid or oversized announcement is refused by every client call before anything is read or
    reserved: the error is returned with buffer, descriptors, reservation and socket unchanged, in ANY state,
    whatever happens during the call. -/
theorem oversized_refused_before_reading (st : State) (w : World) (c : Call) (evs : List Ev) :
    (bytesNeeded st.buf = .tooLong → step c st w evs = (.tooLong, st, w)) ∧
    (bytesNeeded st.buf = .invalid → step c st w evs = (.invalid, st, w)) :=
  step_err c st w evs

/-- Memory follows the bytes received, not the bytes announced. For EVERY peer (arbitrary byte stream
    `w0.rest`, well-formed or not), every history of arrivals and client calls, every kernel answer: the
    buffer fits the reservation of `IncomingBuffer`, which stays within one growth step (64 KiB) of what is
    buffered, within 128 MiB and within what the buffered header announces (16 at least), hence (nothing queued
    before the history starts) within 64 KiB of the bytes that ever arrived. -/
theorem memory_follows_bytes_received (w0 : World) (acts : List Action) (tr : List Res) (st : State)
    (w : World) (h : run State.empty w0 acts = (tr, st, w)) :
    st.buf.length ≤ st.cap ∧
    st.cap ≤ max 16 (st.buf.length + maxGrowth) ∧
    st.cap ≤ maxMessageLen ∧
    (∀ n, bytesNeeded st.buf = .bytes n → st.cap ≤ max 16 n) ∧
    (w0.avail = 0 → st.buf.length ≤ arrivals acts ∧ st.cap ≤ max 16 (arrivals acts + maxGrowth)) := by
  have hm := run_mem acts (mem_empty w0)
  rw [h] at hm
  refine ⟨hm.1.fits, hm.1.growth, hm.1.limit, hm.1.announced, fun h0 => ?_⟩
  rw [h0, Nat.zero_add] at hm
  exact ⟨hm.buf_le, hm.cap_le⟩

/-- When at most `k` bytes have arrived in all (the 16 of a header announcing up to 128 MiB included): however
    the client calls, the reservation is at most `k + 64 KiB` (16 at least). -/
theorem few_bytes_small_buffer (w0 : World) (h0 : w0.avail = 0) (acts : List Action) (k : Nat)
    (hk : arrivals acts ≤ k) : (run State.empty w0 acts).2.1.cap ≤ max 16 (k + maxGrowth) := by
  have hm := run_mem acts (mem_empty w0)
  rw [h0, Nat.zero_add] at hm
  exact (hm.mono hk).cap_le

/-- One `refill_buffer` never reserves beyond `filled + 64 KiB` nor beyond its request (any state). -/
theorem reserve_step_clamped (st : State) (maxBuf : Nat) :
    (reserve st maxBuf).cap ≤ max st.cap (st.buf.length + maxGrowth) ∧
    (reserve st maxBuf).cap ≤ max st.cap maxBuf :=
  ⟨Nat.max_le.2 ⟨Nat.le_max_left .., Nat.le_trans (Nat.min_le_right ..) (Nat.le_max_right ..)⟩,
   Nat.max_le.2 ⟨Nat.le_max_left .., Nat.le_trans (Nat.min_le_left ..) (Nat.le_max_right ..)⟩⟩

/-- The array limit is checked on the length word alone. If the length word of an array or dict at `off`
    (at `lenPos off` = `off` aligned to 4) reads more than 64 MiB, the decoder rejects whatever follows that
    word (the element region, present or not, is never consulted), at every nesting level (any budget), with
    or without descriptor checking. -/
theorem array_limit_checked_first (bo : ByteOrder) (buf : List UInt8) (off : Nat)
    (hbig : maxArrayLen < valOf bo (slice buf (lenPos off) 4))
    (buf' : List UInt8) (hpre : buf'.take (lenPos off + 4) = buf.take (lenPos off + 4))
    (nfds : Option Nat) (d lim : Nat) :
    (∀ e, dec bo buf' nfds d (.array e) off lim = none) ∧
    (∀ k vt, dec bo buf' nfds d (.dict k vt) off lim = none) := by
  rw [← slice_of_take_eq hpre _ 4 (Nat.le_refl _)] at hbig
  exact ⟨fun e => dec_array_big bo buf' off e hbig nfds d lim,
    fun k vt => dec_dict_big bo buf' off k vt hbig nfds d lim⟩

/-- A rejected component rejects what holds it: a rejected field rejects the struct, a rejected payload the
    variant. For arrays and dicts the statement stops at the element loops: a rejected next element rejects the
    rest of the list (`decList`; an accepted one is stepped over), a rejected value of the next entry rejects the
    rest of the entries (`decEntries`); that the array / dict itself is then rejected is not a conjunct here. For
    a value of any type at any nesting level, `oversized_length_stops_decoding` says it. -/
theorem rejection_propagates (bo : ByteOrder) (buf : List UInt8) (nfds : Option Nat) (d lim : Nat) :
    (∀ pre t post off o vs o1, skipPad buf off lim 8 = some o →
      decFields bo buf nfds d pre o lim = some (vs, o1) → dec bo buf nfds d t o1 lim = none →
      dec bo buf nfds (d + 1) (.struct (pre ++ t :: post)) off lim = none) ∧
    (∀ off, (∀ t len, readNum bo buf off lim 1 = some len →
        Sig.parseDescription (latin1 (slice buf (off + 1) len)) = some [t] →
        dec bo buf nfds d t (off + len + 2) lim = none) →
      dec bo buf nfds (d + 1) .variant off lim = none) ∧
    (∀ e off fuel, off ≠ lim → dec bo buf nfds d e off lim = none →
      decList bo buf nfds d e off lim fuel = none) ∧
    (∀ e off fuel v o', off ≠ lim → dec bo buf nfds d e off lim = some (v, o') →
      decList bo buf nfds d e off lim (fuel + 1) = (decList bo buf nfds d e o' lim fuel).map (v :: ·)) ∧
    (∀ k vt off fuel o o1 kv, off ≠ lim → skipPad buf off lim 8 = some o →
      decBase bo buf nfds k o lim = some (kv, o1) → dec bo buf nfds d vt o1 lim = none →
      decEntries bo buf nfds d k vt off lim fuel = none) :=
  ⟨dec_struct_none_of_field bo buf nfds d lim, dec_variant_inner_none bo buf nfds d lim,
   decList_none_of_head bo buf nfds d lim, decList_cons_of_head bo buf nfds d lim,
   decEntries_none_of_value bo buf nfds d lim⟩

/-- The instrumented decoder IS the decoder: same result on every input. -/
theorem instrumented_same_result (bo : ByteOrder) (buf : List UInt8) (nfds : Option Nat) (d : Nat) (t : Ty)
    (off lim : Nat) : (decT bo buf nfds d t off lim).res = dec bo buf nfds d t off lim :=
  (runOk_all bo buf nfds d t off lim).res

/-- The instrumented statement, for a value of ANY type at ANY nesting level: if anywhere during the
    decoding a length word larger than 64 MiB is met (at offset `p`), the whole decoding fails and those four
    bytes are the last thing looked at (high-water mark `p + 4`): neither the element region nor anything
    after it is inspected. In general the decoder never looks at or beyond its limit, and a successful
    decoding has looked exactly up to the end of the value. -/
theorem oversized_length_stops_decoding (bo : ByteOrder) (buf : List UInt8) (nfds : Option Nat) (d : Nat)
    (t : Ty) (off lim : Nat) :
    (∀ p, (decT bo buf nfds d t off lim).big = some p →
      dec bo buf nfds d t off lim = none ∧ (decT bo buf nfds d t off lim).hw = p + 4 ∧ off ≤ p ∧
      maxArrayLen < valOf bo (slice buf p 4)) ∧
    off ≤ (decT bo buf nfds d t off lim).hw ∧ (decT bo buf nfds d t off lim).hw ≤ max off lim ∧
    (∀ v o', dec bo buf nfds d t off lim = some (v, o') →
      (decT bo buf nfds d t off lim).hw = o' ∧ (decT bo buf nfds d t off lim).big = none) := by
  rcases runOk_all bo buf nfds d t off lim with ⟨⟨v, o'⟩, ep, er, a1, a2⟩ | ⟨ep, h, b, er, ⟨s1, s2⟩, s3⟩ <;>
    rw [ep, er]
  · exact ⟨fun p hp => (by cases hp), a1, a2, fun _ _ hv => (by cases hv; exact ⟨rfl, rfl⟩)⟩
  · exact ⟨fun p hp => ⟨rfl, s3 p hp⟩, s1, s2, fun _ _ hv => (by cases hv)⟩

/-- An array whose own length word is readable and oversized: the instrumented decoder refuses it, marks that word and
    stops right after it (the case of `oversized_length_stops_decoding` in which the marker is the value's own). -/
theorem array_limit_instrumented (bo : ByteOrder) (buf : List UInt8) (nfds : Option Nat) (d : Nat) (e : Ty)
    (off lim : Nat) (hp : skipPad buf off lim 4 = some (lenPos off)) (hl : lenPos off + 4 ≤ lim)
    (hb : lim ≤ buf.length) (hbig : maxArrayLen < valOf bo (slice buf (lenPos off) 4)) :
    (decT bo buf nfds (d + 1) (.array e) off lim).res = none ∧
    (decT bo buf nfds (d + 1) (.array e) off lim).hw = lenPos off + 4 ∧
    (decT bo buf nfds (d + 1) (.array e) off lim).big = some (lenPos off) := by
  rw [decT_array, collT]
  have h1 : skipPadT buf off lim 4 = (some (lenPos off), lenPos off) := by
    unfold skipPadT
    rw [hp, if_pos ⟨by unfold lenPos at hl; omega, hb⟩]; rfl
  have h2 : readNumT bo buf (lenPos off) lim 4 =
      (some (valOf bo (slice buf (lenPos off) 4)), lenPos off + 4) := by
    unfold readNumT readNum; rw [if_pos ⟨hl, hb⟩, if_pos ⟨hl, hb⟩]
  rw [h1]; dsimp only; rw [h2]; dsimp only
  rw [if_neg (by omega)]
  exact ⟨rfl, by dsimp only; omega, rfl⟩

/-- Every array and dict the decoder accepts has an element region of at most 64 MiB. -/
theorem accepted_arrays_within_limit (bo : ByteOrder) (buf : List UInt8) (nfds : Option Nat) (d : Nat)
    (off lim : Nat) (v : Val) (o' : Nat) :
    (∀ e, dec bo buf nfds d (.array e) off lim = some (v, o') →
      ∃ vs body, v = .arr vs ∧
        encList bo (off + padLen 4 off + 4 + padLen e.align (off + padLen 4 off + 4)) e vs = some body ∧
        body.length ≤ maxArrayLen) ∧
    (∀ k vt, dec bo buf nfds d (.dict k vt) off lim = some (v, o') →
      ∃ es body, v = .arr es ∧
        encEntries bo (off + padLen 4 off + 4 + padLen 8 (off + padLen 4 off + 4)) k vt es = some body ∧
        body.length ≤ maxArrayLen) := by
  constructor
  · intro e h
    obtain ⟨vs, body, hv, hb, hl, _⟩ := enc_array_inv (enc_dec h).2.2.2.1
    exact ⟨vs, body, hv, hb, hl⟩
  · intro k vt h
    obtain ⟨es, body, hv, hb, hl, _⟩ := enc_dict_inv (enc_dec h).2.2.2.1
    exact ⟨es, body, hv, hb, hl⟩

private theorem depthOfList_base (b : Base) (vs : List Val) : depthOfList (.base b) vs = 0 := by
  induction vs with
  | nil => rfl
  | cons v vs ih => simp only [depthOfList, depthOf, ih]; rfl

/-- The boundary is exact on complete data. An array of `n` fixed-size elements of width `k` that is
    completely present: if `k * n ≤ 64 MiB` it has an encoding and validation accepts it wherever it stands
    (any prefix, any suffix); if `k * n > 64 MiB` every buffer whose length word reads `k * n` is rejected,
    although all the bytes may be there. (The driver answers `c18.fullarr` with `arrOk k n`.) -/
theorem decode_boundary (bo : ByteOrder) (b : Base) (k : Nat) (ns : List Nat)
    (hb : Marshal.fastElem b = true) (hk : b.fixedSize = some k) (hn : ∀ n ∈ ns, n < 256 ^ k) :
    (k * ns.length ≤ maxArrayLen → ∀ pre suf : List UInt8,
      ∃ bs, enc bo pre.length (.array (.base b)) (.arr (ns.map Val.num)) = some bs ∧
        validate bo (pre ++ (bs ++ suf)) pre.length (.array (.base b)) = some bs.length) ∧
    (maxArrayLen < k * ns.length → ∀ (buf : List UInt8) (off : Nat) (nfds : Option Nat) (d lim : Nat),
      valOf bo (slice buf (lenPos off) 4) = k * ns.length →
      dec bo buf nfds d (.array (.base b)) off lim = none) := by
  constructor
  · intro hle pre suf
    obtain ⟨bs, he⟩ := Option.isSome_iff_exists.1
      ((fixed_array_isSome bo pre.length b k ns hb hk hn).trans (decide_eq_true hle))
    exact ⟨bs, he, validate_roundtrip bo _ _ pre bs suf he (by simp only [depthOf, depthOfList_base]; decide)⟩
  · intro hgt buf off nfds d lim hw
    exact dec_array_big bo buf off _ (hw ▸ hgt) nfds d lim

/-- Depth limit, acceptance side (C03): validation accepts exactly the encodings of values nested at most
    64 levels deep — a deeper value is never accepted, a value of depth ≤ 64 always is. -/
theorem depth_limit (bo : ByteOrder) (buf : List UInt8) (off : Nat) (t : Ty) (n : Nat) :
    validate bo buf off t = some n ↔
      (off + n ≤ buf.length ∧ ∃ v, enc bo off t v = some (slice buf off n) ∧ depthOf t v ≤ 64) :=
  validate_iff bo buf off t n

/-- Depth limit, mechanism side: whatever is accepted with nesting budget `d` is nested at most `d` deep;
    and a container entered with budget 0 — the 65th level when starting from 64 — is refused for EVERY
    buffer, offset and limit without a single byte being inspected (the instrumented high-water mark stays
    at `off`). So the recursion depth of the decoders is at most 64 whatever the bytes say. -/
theorem depth_limit_enforced_on_entry (bo : ByteOrder) (buf : List UInt8) (nfds : Option Nat) :
    (∀ d t off lim v o', dec bo buf nfds d t off lim = some (v, o') → depthOf t v ≤ d) ∧
    (∀ t off lim, (∀ b, t ≠ .base b) →
      dec bo buf nfds 0 t off lim = none ∧ decT bo buf nfds 0 t off lim = ⟨none, off, none⟩) ∧
    (∀ k vt off lim, dec bo buf nfds 1 (.dict k vt) off lim = none ∧
      decT bo buf nfds 1 (.dict k vt) off lim = ⟨none, off, none⟩) :=
  ⟨fun _ _ _ _ _ _ h => (enc_dec h).2.2.2.2.1,
   fun _ _ _ ht => ⟨dec_zero ht, decT_zero ht⟩,
   fun _ _ _ _ => ⟨dec_dict_one, decT_dict_one⟩⟩

/-- A value nested deeper than 64 levels is rejected wherever its encoding stands: between any prefix and
    suffix, by validation and by unmarshalling (with any number of descriptors). -/
theorem deeper_than_64_rejected (bo : ByteOrder) (t : Ty) (v : Val) (pre bs suf : List UInt8)
    (h : enc bo pre.length t v = some bs) (hd : 64 < depthOf t v) :
    validate bo (pre ++ (bs ++ suf)) pre.length t = none ∧
    ∀ nfds, unmarshal bo (pre ++ (bs ++ suf)) nfds pre.length t = none := by
  have key : ∀ nfds, dec bo (pre ++ (bs ++ suf)) nfds maxDepth t pre.length (pre ++ (bs ++ suf)).length = none :=
    fun nfds => dec_none_of_depth bo t v pre bs suf h nfds maxDepth _ hd
      (by simp only [List.length_append]; omega) (by simp only [List.length_append]; omega)
  refine ⟨?_, fun nfds => key (some nfds)⟩
  unfold validate; rw [key none]

/-- What the decoders build is bounded by what they consumed. For every accepted value: its number of
    nodes (basic values, strings, arrays, structs, dict entries, variants — one allocation-sized unit each)
    is at most `(budget + 1)` times the number of bytes it occupies, i.e. at most 65 per byte from the top
    (every node except a struct level occupies at least one byte of its own, struct levels are bounded by the
    depth), and the total of its string bytes is at most the bytes it occupies. -/
theorem decode_allocation_bounded (bo : ByteOrder) (buf : List UInt8) :
    (∀ nfds d t off lim v o', dec bo buf nfds d t off lim = some (v, o') →
      nodes v ≤ (d + 1) * (o' - off) ∧ strBytes v ≤ o' - off ∧ off < o') ∧
    (∀ nfds off t v o', unmarshal bo buf nfds off t = some (v, o') →
      nodes v ≤ 65 * (o' - off) ∧ strBytes v ≤ o' - off ∧ o' ≤ buf.length) ∧
    (∀ off t n, validate bo buf off t = some n →
      ∃ v, dec bo buf none maxDepth t off buf.length = some (v, off + n) ∧
        nodes v ≤ 65 * n ∧ strBytes v ≤ n) := by
  refine ⟨dec_size bo buf, ?_, ?_⟩
  · intro nfds off t v o' h
    obtain ⟨a, b, _⟩ := dec_size bo buf (some nfds) maxDepth t off buf.length v o' h
    exact ⟨a, b, (dec_bounds h).2.1⟩
  · intro off t n h
    unfold validate at h
    split at h
    · rename_i v o' hd
      cases h
      obtain ⟨a, b, c⟩ := dec_size bo buf none maxDepth t off buf.length v o' hd
      exact ⟨v, (Nat.add_sub_of_le (Nat.le_of_lt c)).symm ▸ hd, a, b⟩
    · cases h

/-- The marshallers refuse every array and dict whose element region exceeds 64 MiB and accept it at
    exactly 64 MiB (given the elements are encodable). The mechanism-level marshaller (placeholder +
    back-patch) refuses exactly when the encoding does. -/
theorem send_array_limit (bo : ByteOrder) (off : Nat) :
    (∀ e vs, (enc bo off (.array e) (.arr vs)).isSome = true ↔
      ∃ body, encList bo (off + padLen 4 off + 4 + padLen e.align (off + padLen 4 off + 4)) e vs = some body ∧
        body.length ≤ maxArrayLen) ∧
    (∀ k vt es, (enc bo off (.dict k vt) (.arr es)).isSome = true ↔
      ∃ body, encEntries bo (off + padLen 4 off + 4 + padLen 8 (off + padLen 4 off + 4)) k vt es = some body ∧
        body.length ≤ maxArrayLen) ∧
    (∀ t v buf, (Marshal.marshalM bo t v buf).isSome = (enc bo buf.length t v).isSome) := by
  refine ⟨enc_array_isSome bo off, enc_dict_isSome bo off, ?_⟩
  intro t v buf
  rw [Marshal.marshalM_eq_enc]
  cases enc bo buf.length t v <;> rfl

/-- Arrays of fixed-size elements (`&[u8]`, `Vec<u64>`, … — the slice fast path and the element-wise path
    alike): emitted iff `element width × count ≤ 64 MiB`, at every offset, in both byte orders. -/
theorem send_fixed_array_limit (bo : ByteOrder) (off : Nat) (b : Base) (k : Nat) (ns : List Nat)
    (hb : Marshal.fastElem b = true) (hk : b.fixedSize = some k) (hn : ∀ n ∈ ns, n < 256 ^ k) :
    ((enc bo off (.array (.base b)) (.arr (ns.map Val.num))).isSome = true ↔ k * ns.length ≤ maxArrayLen) ∧
    ((Marshal.marshalSliceFastM bo b k ns (zeros off)).isSome = true ↔ k * ns.length ≤ maxArrayLen) := by
  rw [fixed_array_isSome bo off b k ns hb hk hn, fastM_isSome]
  simp [arrOk]

/-- At any nesting level: if a component is refused (at the offset where it is placed) the whole value is
    refused — an element of an array, a field of a struct, the payload of a variant, a value of a dict. -/
theorem send_refusal_propagates (bo : ByteOrder) :
    (∀ e pre v post off b1, encList bo off e pre = some b1 → enc bo (off + b1.length) e v = none →
      encList bo off e (pre ++ v :: post) = none) ∧
    (∀ pre t post vpre v vpost off b1, encFields bo off pre vpre = some b1 →
      enc bo (off + b1.length) t v = none →
      encFields bo off (pre ++ t :: post) (vpre ++ v :: vpost) = none) ∧
    (∀ off t v, enc bo (off + (sigBytes t).length + 2) t v = none →
      enc bo off .variant (.variant t v) = none) ∧
    (∀ k vt kv vv rest off kb, encBase bo (off + padLen 8 off) k kv = some kb →
      enc bo (off + padLen 8 off + kb.length) vt vv = none →
      encEntries bo off k vt (.struct [kv, vv] :: rest) = none) ∧
    (∀ off e vs, encList bo (off + padLen 4 off + 4 + padLen e.align (off + padLen 4 off + 4)) e vs = none →
      enc bo off (.array e) (.arr vs) = none) ∧
    (∀ off fs vs, encFields bo (off + padLen 8 off) fs vs = none →
      enc bo off (.struct fs) (.struct vs) = none) :=
  ⟨encList_none_of_elem bo, encFields_none_of_field bo,
   fun off t v h => by simp only [enc, h]; split <;> rfl,
   fun k vt kv vv rest off kb hk h => by simp only [encEntries, hk, h],
   fun off e vs h => by simp only [enc, h],
   fun off fs vs h => by simp only [enc, h]; split <;> rfl⟩

/-- The contexts the correspondence run wraps a byte array of `n` bytes in: as the second field of a struct
    `(yay)` and as the payload of a variant it is emitted iff `n ≤ 64 MiB` (the context changes nothing); as the
    value of the only entry `"k"` of a dict `a{say}` the DICT's own element region is `12 + n` bytes and the whole
    is emitted iff `12 + n ≤ 64 MiB`. (The driver answers `c18.arr` with `arrOk k n` and `12 + k * n ≤ 64 MiB` for elements
    of any width `k`; these are its answers at `k = 1`.) -/
theorem send_contexts (bo : ByteOrder) (off : Nat) (ns : List Nat) (hn : ∀ n ∈ ns, n < 256) :
    (∀ x, x < 256 →
      (enc bo off (.struct [.base .byte, .array (.base .byte)]) (.struct [.num x, .arr (ns.map Val.num)])).isSome =
        arrOk 1 ns.length) ∧
    (enc bo off .variant (.variant (.array (.base .byte)) (.arr (ns.map Val.num)))).isSome = arrOk 1 ns.length ∧
    (enc bo off (.dict .string (.array (.base .byte)))
      (.arr [.struct [.str [107], .arr (ns.map Val.num)]])).isSome = decide (12 + ns.length ≤ maxArrayLen) :=
  ⟨fun x hx => by rw [enc_struct_byte_isSome bo off x hx, fixed_array_isSome bo _ .byte 1 ns rfl rfl hn],
   by rw [enc_variant_isSome bo off _ _ (by decide), fixed_array_isSome bo _ .byte 1 ns rfl rfl hn],
   enc_dict_one_bytes_isSome bo off ns hn⟩

/-- `marshal::marshal` (valid type, names and body signature given) refuses **iff** the header field array
    exceeds 64 MiB or header + padding + body exceeds 128 MiB; otherwise the header has exactly the length the
    length-level model `marshalLen` computes (this is what the correspondence run uses for 64 MiB inputs). -/
theorem send_message_limit (m : Msg) (serial : Nat) (h1 : 1 ≤ m.typ) (h4 : m.typ ≤ 4) (hn : NamesOk m) :
    (marshalHeader m serial = none ↔
      (fieldsEnd (lensOf m) - 16 > maxArrayLen ∨
       fieldsEnd (lensOf m) + padLen 8 (fieldsEnd (lensOf m)) + m.body.length > maxMessageLen)) ∧
    (marshalHeader m serial).map List.length = marshalLen (lensOf m) := by
  have hl := marshalLen_eq m serial h1 h4 hn
  refine ⟨?_, hl⟩
  rw [← Option.map_eq_none_iff (f := List.length), hl]
  exact marshalLen_none_iff (lensOf m)

/-- When marshalling refuses, `send_message` returns the error without creating a send context: there is
    nothing that could be written, not a byte reaches the socket. The serial is allocated BEFORE marshalling,
    as in the code: a refused message without preset serial has consumed one serial (the counter, below
    `u32::MAX`, advanced by one), a refused message with a preset serial has consumed none. -/
theorem refused_send_writes_nothing (c : Serial.Conn) (hm : Msg) (fds : List Nat) :
    (∀ s, marshalHeader hm s = none → Send.sendMessage c hm fds (some s) = .refused c) ∧
    (c.counter + 1 ≤ Serial.u32Max → marshalHeader hm c.counter = none →
      Send.sendMessage c hm fds none = .refused ⟨c.counter + 1⟩) ∧
    (∀ preset ctx c', Send.sendMessage c hm fds preset = .started ctx c' →
      ∃ hdr, marshalHeader hm ctx.st.serial = some hdr ∧ ctx.msg = ⟨hdr, hm.body, fds⟩ ∧
        ctx.st.bytesSent = 0 ∧ hdr.length + hm.body.length ≤ maxMessageLen) := by
  refine ⟨?_, ?_, ?_⟩
  · intro s h
    simp only [Send.sendMessage, Serial.sendSerial, h]
  · intro hc h
    simp only [Send.sendMessage, Serial.sendSerial, Serial.allocSerial, if_pos hc, h]
  · intro preset ctx c' h
    obtain ⟨s, hdr, _, hmh, rfl⟩ := Send.sendMessage_started h
    exact ⟨hdr, hmh, rfl, rfl, (marshalHeader_fields_valid hm s hdr hmh).2.2.1⟩

/-- Send and receive limits agree: every message the send side emits is within the receive side's limits —
    the frame size a receiver computes from the emitted bytes is exactly their length (never `MessageTooLong`). -/
theorem send_receive_limits_agree (m : Msg) (serial : Nat) (hr : msgInRange m serial) (hs : 0 < serial)
    (hdr : List UInt8) (h : marshalHeader m serial = some hdr) :
    bytesNeeded (hdr ++ m.body) = .bytes (hdr.length + m.body.length) ∧
    hdr.length + m.body.length ≤ maxMessageLen :=
  ⟨send_within_recv m serial hr hs hdr h, (marshalHeader_fields_valid m serial hdr h).2.2.1⟩

/-- a little-endian method call header announcing field array length `F` (4 bytes LE) and body length `B` -/
def exHdr (f b : List UInt8) : List UInt8 := [108, 1, 0, 1] ++ b ++ [1, 0, 0, 0] ++ f

-- 64 MiB field array is still announced, 64 MiB + 1 is too long; total 128 MiB ok, 128 MiB + 8 too long
example : bytesNeeded (exHdr [0, 0, 0, 4] [0, 0, 0, 0]) = .bytes 67108880 := by decide +kernel
example : bytesNeeded (exHdr [1, 0, 0, 4] [0, 0, 0, 0]) = .tooLong := by decide +kernel
example : bytesNeeded (exHdr [0, 0, 0, 0] [240, 255, 255, 7]) = .bytes 134217728 := by decide +kernel
example : bytesNeeded (exHdr [0, 0, 0, 0] [248, 255, 255, 7]) = .tooLong := by decide +kernel
example : bytesNeeded (exHdr [255, 255, 255, 255] [255, 255, 255, 255]) = .tooLong := by decide +kernel
example : announce 67108864 0 = .bytes 67108880 ∧ announce 67108865 0 = .tooLong ∧
    announce 0 134217712 = .bytes 134217728 ∧ announce 0 134217713 = .tooLong ∧
    announce 4294967295 4294967295 = .tooLong := by decide +kernel

/-- a peer announces 128 MiB and then sends 100 bytes: the client has reserved 116 + 64 KiB, not 128 MiB -/
def exStream : List (UInt8 × List Nat) :=
  ((exHdr [0, 0, 0, 0] [240, 255, 255, 7]) ++ List.replicate 100 7).map (fun b => (b, []))

example : (run State.empty ⟨exStream, 0⟩
      [.arrive 116, .call .getNext [.deliver 4096, .deliver 4096, .deliver 4096], .call .readOnce []]).1 =
    [.timedOut, .timedOut] := by decide +kernel
example : (run State.empty ⟨exStream, 0⟩
      [.arrive 116, .call .getNext [.deliver 4096, .deliver 4096, .deliver 4096], .call .readOnce []]).2.1.cap =
    65652 := by decide +kernel
example : (run State.empty ⟨exStream, 0⟩
      [.arrive 116, .call .getNext [.deliver 4096, .deliver 4096, .deliver 4096]]).2.1.buf.length = 116 := by
  decide +kernel

private theorem pv : Sig.parseDescription (latin1 [118]) = some [.variant] := parse_v
private theorem py : Sig.parseDescription (latin1 [121]) = some [.base .byte] := by rfl
private theorem pay : Sig.parseDescription (latin1 [97, 121]) = some [.array (.base .byte)] := by rfl
private theorem dz (bo : ByteOrder) (buf : List UInt8) (nfds : Option Nat) (off lim : Nat) :
    dec bo buf nfds 0 .variant off lim = none := dec_zero (by intro b; simp)
private theorem dzT (bo : ByteOrder) (buf : List UInt8) (nfds : Option Nat) (off lim : Nat) :
    decT bo buf nfds 0 .variant off lim = ⟨none, off, none⟩ := decT_zero (by intro b; simp)

/-- `y` then a variant holding `ay` whose length word says 64 MiB + 1, followed by 3 bytes only -/
def exBig : List UInt8 := [9, 2, 97, 121, 0, 0, 0, 0, 1, 0, 0, 4, 1, 2, 3]

section
/- `dec` and `decT` are defined by well-founded recursion, so the kernel cannot compute them; `simp` with their
   one-step unfolding lemmas can. -/
attribute [local simp] validate validateT maxDepth dec_variant dec_base dec_array dec_struct
  decFields_cons decFields_nil decT_variant decT_base decT_array collT decT_struct decFieldsT_cons
  decBase decBaseT skipPadT readNumT readNum skipPad slice valOf leVal padLen pay Base.fixedSize
  decList_zero decList_succ

example : validate .le exBig 0 (.struct [.base .byte, .variant]) = none := by simp (decide := true) [exBig]
-- … the instrumented decoder stopped right after the length word at offset 8 (high-water mark 12 of 15)
example : (validateT .le exBig 0 (.struct [.base .byte, .variant])).res.isNone = true ∧
    (validateT .le exBig 0 (.struct [.base .byte, .variant])).hw = 12 ∧
    (validateT .le exBig 0 (.struct [.base .byte, .variant])).big = some 8 := by simp (decide := true) [exBig]
-- with the length word exactly at the limit the same bytes are rejected only because the elements are
-- missing (no oversize marker); with a small length they are accepted
example : (validateT .le [9, 2, 97, 121, 0, 0, 0, 0, 0, 0, 0, 4, 1, 2, 3] 0
    (.struct [.base .byte, .variant])).big = none := by simp (decide := true)
example : validate .le [9, 2, 97, 121, 0, 0, 0, 0, 3, 0, 0, 0, 1, 2, 3] 0 (.struct [.base .byte, .variant]) =
    some 15 := by simp (decide := true)
end

/-- a variant bomb: `n + 1` variants nested, the innermost holding the byte 42 -/
def bomb : Nat → List UInt8
  | 0 => [1, 121, 0, 42]
  | n + 1 => [1, 118, 0] ++ bomb n
def bombVal : Nat → Val
  | 0 => .variant (.base .byte) (.num 42)
  | n + 1 => .variant .variant (bombVal n)

-- 64 levels are accepted (C03: the bytes are the encoding of a value of depth 64) …
example : validate .le (bomb 63) 0 .variant = some 193 :=
  (depth_limit .le (bomb 63) 0 .variant 193).2
    ⟨by decide +kernel, bombVal 63, by decide +kernel, by decide +kernel⟩
-- … 65 and 66 levels are rejected, by validation and by unmarshalling
example : validate .le (bomb 64) 0 .variant = none ∧ (∀ n, unmarshal .le (bomb 64) n 0 .variant = none) := by
  have := deeper_than_64_rejected .le .variant (bombVal 64) [] (bomb 64) []
    (by decide +kernel) (by decide +kernel)
  rwa [List.append_nil, List.nil_append, List.length_nil] at this
example : validate .be (bomb 65) 0 .variant = none := by
  have := (deeper_than_64_rejected .be .variant (bombVal 65) [] (bomb 65) []
    (by decide +kernel) (by decide +kernel)).1
  rwa [List.append_nil, List.nil_append, List.length_nil] at this
-- the 65-deep bomb is abandoned when the 65th level is entered: exactly the 64 × 3 signature bytes before it
-- were looked at
set_option maxRecDepth 100000 in
example : validate .le (bomb 64) 0 .variant = none ∧ (validateT .le (bomb 64) 0 .variant).hw = 192 := by
  have h := decT_variant_tower .le none bomb (fun _ => rfl) 64 64 (Nat.le_refl _) [] (bomb 64).length
    (by decide +kernel) (Nat.le_of_eq (by rw [List.nil_append]))
  rw [List.nil_append, List.length_nil] at h
  unfold validate validateT maxDepth
  rw [← instrumented_same_result, h]
  exact ⟨rfl, rfl⟩
set_option maxRecDepth 100000 in
example : (unmarshal .le (bomb 63) 0 0 .variant).isSome = true := by
  have := roundtrip .le .variant (bombVal 63) [] (bomb 63) [] 0
    (by decide +kernel) (by decide +kernel) (by decide +kernel)
  rw [List.append_nil, List.nil_append, List.length_nil] at this
  rw [this]; rfl

-- byte arrays on the send side: 64 MiB accepted, one more byte refused (without building the lists)
example (bo : ByteOrder) (off : Nat) :
    (enc bo off (.array (.base .byte)) (.arr ((List.replicate 67108864 0).map Val.num))).isSome = true :=
  (send_fixed_array_limit bo off .byte 1 _ rfl rfl (by intro n hn; rw [List.eq_of_mem_replicate hn]; decide)).1.2
    (by rw [List.length_replicate]; decide)
example (bo : ByteOrder) (off : Nat) :
    enc bo off (.array (.base .byte)) (.arr ((List.replicate 67108865 0).map Val.num)) = none := by
  have h := (send_fixed_array_limit bo off .byte 1 (List.replicate 67108865 0) rfl rfl
    (by intro n hn; rw [List.eq_of_mem_replicate hn]; decide)).1
  rw [List.length_replicate] at h
  exact Option.not_isSome_iff_eq_none.1 fun hs => absurd (h.1 hs) (by decide)

-- header lengths: a method call with a path of `pathLen` bytes, member "m", a body of `bodyLen` bytes of signature `y`
def exLens (pathLen bodyLen : Nat) : MsgLens :=
  { replySerial := false, interface := none, destination := none, sender := none, member := some 1,
    path := some pathLen, errorName := none, sig := if bodyLen = 0 then none else some 1,
    bodyLen := bodyLen, hasFds := false }

example : marshalLen (exLens 1 1) = some 56 := by decide +kernel
-- body of 128 MiB - 56 accepted, one more byte refused; an object path that makes the field array exactly
-- 64 MiB accepted, one more byte refused
example : marshalLen (exLens 1 134217672) = some 56 ∧ marshalLen (exLens 1 134217673) = none ∧
    marshalLen (exLens 67108839 0) = some 67108880 ∧ marshalLen (exLens 67108840 0) = none := by
  decide +kernel

end Rustbus.Limits

namespace Rustbus.Marshal
open Rustbus Rustbus.Bytes Rustbus.Wire Rustbus.Spec.Wire

/-- Send-side nesting limit: what `marshal_param` emits needs at most 64 container levels, and - with NO
    depth hypothesis left - is accepted by raw validation and (descriptor indices below `nfds`) read back as the same
    value by the decoders, whatever precedes and follows it: the Param marshaller never produces bytes its own receive
    side refuses. -/
theorem param_send_depth_limit (bo : ByteOrder) (t : Ty) (v : Val) (pre out suf : List UInt8) (nfds : Nat)
    (h : marshalParam bo t v pre = some out) (hfd : fdsBelow nfds t v = true) :
    depthOf t v ≤ maxDepth ∧
    ∃ bs, out = pre ++ bs ∧ enc bo pre.length t v = some bs ∧
      validate bo (pre ++ (bs ++ suf)) pre.length t = some bs.length ∧
      unmarshal bo (pre ++ (bs ++ suf)) nfds pre.length t = some (v, pre.length + bs.length) := by
  unfold marshalParam at h
  by_cases hd : depthOf t v ≤ maxDepth
  · rw [if_pos hd] at h
    obtain ⟨bs, he, rfl⟩ := marshalM_eq_some.1 h
    exact ⟨hd, bs, rfl, he, validate_roundtrip bo t v pre bs suf he hd, roundtrip bo t v pre bs suf nfds he hd hfd⟩
  · rw [if_neg hd] at h; simp at h

/-- a value nested deeper than 64 levels is refused by the Param marshaller although the mechanism could write it -/
theorem param_too_deep_refused (bo : ByteOrder) (t : Ty) (v : Val) (buf : List UInt8) (h : maxDepth < depthOf t v) :
    marshalParam bo t v buf = none := by
  unfold marshalParam
  rw [if_neg (by omega)]

-- non-vacuity: a tower of 64 variants around a byte is marshalled, validated and read back; 65 are refused
def vtower : Nat → Val
  | 0 => .num 9
  | n + 1 => .variant (if n = 0 then .base .byte else .variant) (vtower n)
example : (marshalParam .le .variant (vtower 64) [0, 0, 0]).isSome = true ∧ depthOf .variant (vtower 64) = 64 ∧
    marshalParam .le .variant (vtower 65) [0, 0, 0] = none ∧ (marshalM .le .variant (vtower 65) [0, 0, 0]).isSome = true := by
  decide +kernel

end Rustbus.Marshal

#print axioms Rustbus.Limits.announcement_limit
#print axioms Rustbus.Limits.announcement_limit_all_lengths
#print axioms Rustbus.Limits.invalid_header_refused
#print axioms Rustbus.Limits.oversized_refused_before_reading
#print axioms Rustbus.Limits.memory_follows_bytes_received
#print axioms Rustbus.Limits.few_bytes_small_buffer
#print axioms Rustbus.Limits.reserve_step_clamped
#print axioms Rustbus.Limits.array_limit_checked_first
#print axioms Rustbus.Limits.rejection_propagates
#print axioms Rustbus.Limits.instrumented_same_result
#print axioms Rustbus.Limits.oversized_length_stops_decoding
#print axioms Rustbus.Limits.array_limit_instrumented
#print axioms Rustbus.Limits.accepted_arrays_within_limit
#print axioms Rustbus.Limits.decode_boundary
#print axioms Rustbus.Limits.depth_limit
#print axioms Rustbus.Limits.depth_limit_enforced_on_entry
#print axioms Rustbus.Limits.deeper_than_64_rejected
#print axioms Rustbus.Limits.decode_allocation_bounded
#print axioms Rustbus.Limits.send_array_limit
#print axioms Rustbus.Limits.send_fixed_array_limit
#print axioms Rustbus.Limits.send_refusal_propagates
#print axioms Rustbus.Limits.send_contexts
#print axioms Rustbus.Limits.send_message_limit
#print axioms Rustbus.Limits.refused_send_writes_nothing
#print axioms Rustbus.Limits.send_receive_limits_agree
#print axioms Rustbus.Marshal.param_send_depth_limit
#print axioms Rustbus.Marshal.param_too_deep_refused
