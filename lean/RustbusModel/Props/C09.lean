import RustbusModel.Lemmas.RecvHangup
import RustbusModel.Lemmas.EndToEnd
import RustbusModel.Lemmas.Body
import RustbusModel.Lemmas.LimitsRecv
/-!
C09 — Incoming bytes are reassembled into exactly the sent messages under any chunking.

Model: `Model/Recv.lean` (`refill_buffer`, `read_once`, `read_whole_message`, `get_next_message` of
`connection/ll_conn.rs` over an explicit kernel/peer: a stream of cells, `arrive`/`deliver`/`wouldBlock`
events). A history (`List Action`) interleaves arriving bytes with client calls (`read_once`, guarded
`read_once`, `get_next_message`, in any order), each call with the list of events that happen during it; a
kernel answer is any `k`, i.e. any short read. There is no restriction on how the client uses `read_once`.

The model mirrors the early return of `refill_buffer` (`Ok(())` without reading when `max_buffer_size <= filled`). It is
what defect F19 (DESIGN §7) is about: without it `read_once` on a buffer that already holds a complete message calls
`recvmsg` with a zero-length buffer; the kernel answers that with 0 bytes (reported as `ConnectionClosed`) and hands
over - i.e. loses - the descriptors of the NEXT message. The kernel model contains that zero-length `recvmsg`, so that
"it is never issued" (`refill_issues_no_zero_length_recvmsg`) is a statement about the client and not about the model.

Kernel assumptions (trusted base): in-order byte stream; a `recvmsg` into a buffer of ≥ 1 byte returns
EAGAIN or 1..min(requested, queued) bytes; SCM_RIGHTS descriptors arrive with the first byte of the
`sendmsg` they were attached to; at most 10 fit the control buffer. The peer of the model never closes: its stream
simply ends, and a `recvmsg` at the end blocks. A hang-up is modelled as far as what is delivered before it
(`hangup_delivers_everything_written`); the 0-byte read after it, for which `ConnectionClosed` is the right answer,
is outside this model.
-/
namespace Rustbus.Recv
open Rustbus Rustbus.Bytes Rustbus.Header

/- `p` is the peer's placement of each frame's descriptors: the byte of the frame they ride on (`FramesOk p`: inside
    the frame). All theorems hold for EVERY placement; rustbus as a sender uses `p = 0`. -/
variable {p : Frame → Nat}

/-- The size a header announces is fixed as soon as 16 bytes are buffered: it depends on nothing else. -/
theorem announcement_depends_on_first_16 (buf : List UInt8) (h : 16 ≤ buf.length) :
    bytesNeeded buf = bytesNeeded (buf.take 16) := by
  have _ := h  -- not used: below 16 bytes `take 16` is the identity
  exact (bytesNeeded_take (Nat.le_refl 16)).symm

/-- `refill_buffer` never hands the kernel an empty buffer (ANY state, ANY request bound): either the
    buffer already holds `max_buffer_size` bytes - then it returns `Ok(())`, reserves nothing, issues NO
    `recvmsg`, and state and socket are untouched - or it issues exactly one `recvmsg` whose buffer has at
    least one byte. The zero-length `recvmsg` of the kernel model (0 bytes, steals the next message's
    descriptors) is therefore unreachable. -/
theorem refill_issues_no_zero_length_recvmsg (st : State) (w : World) (maxBuf k : Nat) :
    (maxBuf ≤ st.buf.length ∧ refill st w maxBuf k = (.readOk, st, w)) ∨
    (st.buf.length < maxBuf ∧ 0 < (reserve st maxBuf).cap - st.buf.length ∧
      refill st w maxBuf k =
        match recvmsg w ((reserve st maxBuf).cap - st.buf.length) k with
        | (.eagain, w') => (.timedOut, reserve st maxBuf, w')
        | (.data bytes fds, w') =>
          if bytes.isEmpty then (.closed, reserve st maxBuf, w')
          else (.readOk, { reserve st maxBuf with buf := st.buf ++ bytes, fds := st.fds ++ fds }, w')) := by
  by_cases hfull : maxBuf ≤ st.buf.length
  · exact Or.inl ⟨hfull, refill_full hfull w k⟩
  · exact Or.inr ⟨by omega, Nat.pos_of_ne_zero (refill_request_pos (by omega)), by simp only [refill, if_neg hfull]; rfl⟩

/-- No call ever reports `ConnectionClosed` (the peer of the model stays connected): in EVERY history, from
    ANY state, over ANY stream - well-formed frames or not. -/
theorem never_reports_closed (st : State) (w : World) (acts : List Action) :
    Res.closed ∉ (run st w acts).1 :=
  run_ne_closed acts st w

/-- Reassembly: for every list of well-formed frames and EVERY history of arrivals and
    client calls - `get_next_message`, guarded `read_once` and raw `read_once` in any order, also on a buffer
    that already holds a complete message - under ALL kernel answers: the messages returned so far are exactly
    the first `n` frames, in order, each with exactly its own bytes and exactly its own descriptors, where
    `n` is the number of completing `get_next_message` calls; every byte and every descriptor of the
    remaining frames is either in the buffer / `fds_in` or still unread in the socket (nothing lost, nothing
    duplicated, whatever timed out in between); no call failed and none reported a closed connection. -/
theorem reassembly (frames : List Frame) (acts : List Action) (tr : List Res) (st : State) (w : World)
    (hok : FramesOk p frames) (h : run State.empty (World.init p frames) acts = (tr, st, w)) :
    ∃ n, n = (msgs tr).length ∧ n ≤ frames.length ∧ msgs tr = frames.take n ∧
      (stream p (frames.drop n)).map Prod.fst = st.buf ++ w.rest.map Prod.fst ∧
      (stream p (frames.drop n)).flatMap Prod.snd = st.fds ++ w.rest.flatMap Prod.snd ∧
      (∀ r ∈ tr, r.good = true) ∧ Res.closed ∉ tr := by
  obtain ⟨hI, hk, hle, hg⟩ := run_init hok h
  obtain ⟨hc1, hc2⟩ := hI.conservation
  exact ⟨_, rfl, hle, hk, hc1, hc2, hg, fun hm => nomatch hg _ hm⟩

/-- The key invariant, at every point of every history: the buffer is a prefix of the CURRENT frame (it
    never contains a byte of the next one), `fds_in` holds exactly the current frame's descriptors once the
    byte they ride on is in (none before), the announced size is the current frame's length (16 before the header
    is complete), the next `recvmsg` asks for no more than the rest of the current frame, and once the
    current frame is complete a `read_once` reads nothing at all. When no frame is left there is nothing to
    read. -/
theorem never_reads_past_frame (frames : List Frame) (acts : List Action) (tr : List Res) (st : State)
    (w : World) (hok : FramesOk p frames)
    (h : run State.empty (World.init p frames) acts = (tr, st, w)) :
    let todo := frames.drop (msgs tr).length
    let cur := hd todo
    st.buf <+: cur.bytes ∧
    st.fds = (if st.buf.length ≤ p cur then [] else cur.fds) ∧
    (∃ nd, bytesNeeded st.buf = .bytes nd ∧ nd = (if st.buf.length < 16 then 16 else cur.bytes.length) ∧
      (todo ≠ [] → (reserve st nd).cap - st.buf.length ≤ cur.bytes.length - st.buf.length)) ∧
    (todo ≠ [] → st.buf = cur.bytes →
      ∀ evs, readOnce st w evs = (.readOk, st, w.arrive (arrivals evs))) ∧
    (todo = [] → st.buf = [] ∧ w.rest = []) := by
  intro todo cur
  have hI : Inv p todo st w := (run_init hok h).1
  refine ⟨?_, hI.fds_eq, ⟨_, hI.bytesNeeded_eq, rfl, ?_⟩, ?_, ?_⟩
  · rw [hI.buf_eq]; exact List.take_prefix _ _
  · exact fun hne => Nat.sub_le_sub_right ((hI.reserve (want_le _ st)).cap_le hne) _
  · intro hne hb evs
    apply readOnce_whole
    rw [hI.check_eq, if_pos ⟨by rw [hb], hne⟩]
  · intro hnil
    rw [hnil] at hI
    exact ⟨hI.nothing_left.1, hI.nothing_left.2.2⟩

/-- Memory is committed for bytes that arrived, not for what a header claims: at every point of every
    history the buffer fits its reservation, the reservation never exceeds the current frame's length
    (16 while no frame is pending) and never exceeds `filled + 64 KiB` (the `MAX_GROWTH` step; 16 at least). -/
theorem capacity_bounded (frames : List Frame) (acts : List Action) (tr : List Res) (st : State)
    (w : World) (hok : FramesOk p frames)
    (h : run State.empty (World.init p frames) acts = (tr, st, w)) :
    st.buf.length ≤ st.cap ∧
    st.cap ≤ max 16 (hd (frames.drop (msgs tr).length)).bytes.length ∧
    st.cap ≤ max 16 (st.buf.length + maxGrowth) := by
  obtain ⟨hI, _, _, _⟩ := run_init hok h
  exact ⟨hI.lenCap, hI.cap, (h ▸ Limits.run_mem acts (Limits.mem_empty _)).1.growth⟩

/-- One `refill_buffer` never reserves beyond `filled + 64 KiB` (any state, any request). -/
theorem reserve_growth_clamped (st : State) (maxBuf : Nat) :
    (reserve st maxBuf).cap ≤ max st.cap (st.buf.length + maxGrowth) ∧
    (reserve st maxBuf).cap ≤ max st.cap maxBuf :=
  ⟨Nat.max_le.mpr ⟨Nat.le_max_left .., Nat.le_trans (Nat.min_le_right ..) (Nat.le_max_right ..)⟩,
    Nat.max_le.mpr ⟨Nat.le_max_left .., Nat.le_trans (Nat.min_le_left ..) (Nat.le_max_right ..)⟩⟩

/-- A `recvmsg` that would block is a no-op (ANY state, no assumption on the stream): buffer, descriptors
    and the stream position are unchanged, only the reservation may have grown, and the next
    `refill_buffer` behaves exactly as it would have without the timeout. (A `refill_buffer` on a buffer
    that is already full for its request does not time out: it returns `Ok(())`.) -/
theorem timeout_is_noop (st st' : State) (w w' : World) (nd k : Nat)
    (h : refill st w nd k = (.timedOut, st', w')) :
    st.buf.length < nd ∧ st'.buf = st.buf ∧ st'.fds = st.fds ∧ w' = w ∧
    ∀ k2, refill st' w' nd k2 = refill st w nd k2 := by
  rcases refill_res st w nd k with hr | ⟨hlt, hr⟩
  · rw [h] at hr; cases hr
  · cases h.symm.trans hr
    exact ⟨hlt, rfl, rfl, rfl, refill_after_timeout hlt w⟩

/-- A call on an incomplete buffer during which nothing happens times out, and the rest of the history
    then yields exactly the results it would have yielded without that call (ANY state, ANY later history):
    a timeout loses nothing, duplicates nothing, and the next call continues where the previous stopped. -/
theorem timed_out_call_is_invisible (st : State) (w : World) (nd : Nat) (c : Call) (acts : List Action)
    (hc : check st = .need nd) :
    (run st w (.call c [] :: acts)).1 = .timedOut :: (run st w acts).1 := by
  simp only [run, step_nil_timedOut hc]
  rw [← run_reserve_trace acts st w hc]

/-- `read_once` on a buffer that already holds a complete message is a no-op (ANY state, ANY stream, ANY
    events during the call): it returns `Ok(())`; buffer, reservation and `fds_in` are unchanged; nothing
    is taken from the socket - the unread stream with the descriptors riding on it is untouched, the only
    change of the world is what the peer makes arrive during the call; the rest of the history proceeds as if
    the call had not been made. -/
theorem read_once_on_complete_buffer_is_noop (st : State) (w : World) (evs : List Ev)
    (h : check st = .whole) :
    step .readOnce st w evs = (.readOk, st, w.arrive (arrivals evs)) ∧
    (w.arrive (arrivals evs)).rest = w.rest ∧
    (arrivals evs = 0 → step .readOnce st w evs = (.readOk, st, w)) ∧
    ∀ acts, run st w (.call .readOnce evs :: acts) =
      (.readOk :: (run st w (.arrive (arrivals evs) :: acts)).1, (run st w (.arrive (arrivals evs) :: acts)).2) := by
  have hs : step .readOnce st w evs = (.readOk, st, w.arrive (arrivals evs)) := readOnce_whole h w evs
  refine ⟨hs, rfl, ?_, ?_⟩
  · intro h0; rw [hs, h0, arrive_zero]
  · intro acts
    simp only [run, hs]

/-- The early return cannot make `read_whole_message` spin: whenever `buffer_contains_whole_message()` is
    false the request bound exceeds what is buffered (ANY state), so every `refill_buffer` of the loop does a
    real `recvmsg` (data or timeout) - the early return is taken only by `read_once` on a complete buffer. -/
theorem read_whole_message_always_reads (st : State) (w : World) (nd k : Nat) (h : check st = .need nd) :
    st.buf.length < nd ∧ bytesNeeded st.buf = .bytes nd ∧
    0 < (reserve st nd).cap - st.buf.length ∧ refill st w nd k ≠ (.readOk, st, w) := by
  obtain ⟨hlt, hb⟩ := check_need h
  refine ⟨hlt, hb, Nat.pos_of_ne_zero (refill_request_pos hlt), ?_⟩
  rw [refill_short hlt]
  split
  · exact nofun
  · rename_i hg
    intro he
    have := congrArg (fun x => x.2.1.buf.length) he
    rw [State.read_buf_length, List.length_take, Nat.min_eq_left (granted_le_rest ..)] at this
    exact hg (Nat.add_left_cancel this)

/-- Chunking is irrelevant: a history that has consumed the whole stream (nothing buffered, nothing unread)
    has returned exactly the frames - whatever the chunking, the short reads, the timeouts, the calls used. -/
theorem complete_history_returns_all (frames : List Frame) (acts : List Action) (tr : List Res) (st : State)
    (w : World) (hok : FramesOk p frames)
    (h : run State.empty (World.init p frames) acts = (tr, st, w))
    (hb : st.buf = []) (hr : w.rest = []) : msgs tr = frames := by
  obtain ⟨hI, hk, _, _⟩ := run_init hok h
  have hw : check st ≠ .whole := by unfold check; rw [hb]; exact nofun
  rw [hk]
  exact List.take_of_length_le (List.drop_eq_nil_iff.mp (hI.rest_nil hr hw))

/-- Any two complete histories over the same frames return the same messages. -/
theorem chunking_irrelevant (frames : List Frame) (a1 a2 : List Action) (tr1 tr2 : List Res)
    (st1 st2 : State) (w1 w2 : World) (hok : FramesOk p frames)
    (h1 : run State.empty (World.init p frames) a1 = (tr1, st1, w1))
    (h2 : run State.empty (World.init p frames) a2 = (tr2, st2, w2))
    (hb1 : st1.buf = []) (hr1 : w1.rest = []) (hb2 : st2.buf = []) (hr2 : w2.rest = []) :
    msgs tr1 = msgs tr2 := by
  rw [complete_history_returns_all frames a1 tr1 st1 w1 hok h1 hb1 hr1,
    complete_history_returns_all frames a2 tr2 st2 w2 hok h2 hb2 hr2]

/-- One byte at a time - every boundary inside the fixed header, the length words, the padding: the
    history in which each byte arrives alone and is followed by one `get_next_message` whose `recvmsg`
    returns that byte is complete and returns exactly the frames (so complete histories exist for every
    frame list). -/
theorem one_byte_at_a_time (frames : List Frame) (hok : FramesOk p frames) :
    ∃ tr st w, run State.empty (World.init p frames) (oneByte (totalLen frames)) = (tr, st, w) ∧
      msgs tr = frames ∧ st.buf = [] ∧ w.rest = [] :=
  ⟨_, _, _, rfl, oneByte_run (totalLen frames) (inv_init hok) nofun (stream_length p frames)⟩

/-- An invalid fixed header or an oversized announcement (field array > 64 MiB, message > 128 MiB) is
    refused by every call before anything is read: buffer, descriptors, reservation and socket unchanged
    (ANY state, ANY events). -/
theorem refused_announcement_reads_nothing (st : State) (w : World) (c : Call) (evs : List Ev) :
    (bytesNeeded st.buf = .invalid → step c st w evs = (.invalid, st, w)) ∧
    (bytesNeeded st.buf = .tooLong → step c st w evs = (.tooLong, st, w)) :=
  (step_err c st w evs).symm

/-- END TO END, across the models of C15 (body builder / parser), C05 (header marshalling), C18 (limits) and this one:
    a message with the header fields its type requires (`marshal` does not check that), whose body was built by pushing
    the values `ps`, marshalled by the send side (`hdr ++ body`), sent with at most 10 descriptors riding on any byte of
    it, is — under ANY chunking, short reads, timeouts and call pattern that consumes the stream — handed to the
    receiver exactly once, as exactly those bytes with exactly those descriptors;
    the bytes decode to the message's own fixed header, header fields and body; and the parser reads back from that
    body exactly the values that were pushed, in order, using all of it. -/
theorem end_to_end (bo : ByteOrder) (ps : List (Ty × Val)) (b : Body.Body)
    (hb : Body.pushAll (Body.Body.empty bo) (Body.plainItems ps) = some b)
    (hsig : Spec.Sig.Denotes b.sig (Body.itemsTypes ps))
    (hd : ∀ q ∈ ps, Spec.Wire.depthOf q.1 q.2 ≤ Wire.maxDepth ∧ Spec.Wire.fdsBelow 0 q.1 q.2 = true)
    (m : Msg) (hmb : m.body = b.buf) (serial : Nat)
    (hr : Spec.Header.msgInRange m serial) (hs : 0 < serial) (hrs : m.replySerial ≠ some 0)
    (hdr : List UInt8) (hm : marshalHeader m serial = some hdr)
    (fs : List Field) (hf : Spec.Header.entriesFields (Spec.Header.msgEntries m) = some fs) (hok : fieldsOk m.typ fs = true)
    (fds : List Nat) (hfd : fds.length ≤ cmsgCap) (hpos : p ⟨hdr ++ m.body, fds⟩ < (hdr ++ m.body).length)
    (acts : List Action) (tr : List Res) (st : State) (w : World)
    (h : run State.empty (World.init p [⟨hdr ++ m.body, fds⟩]) acts = (tr, st, w))
    (hbuf : st.buf = []) (hrest : w.rest = []) :
    msgs tr = [⟨hdr ++ m.body, fds⟩] ∧
    decodeMessage (hdr ++ m.body) = some (⟨m.bo, m.typ, m.flags, m.body.length, serial⟩, fs, b.buf) ∧
    Body.getAll b ⟨0, 0⟩ (Body.itemsTypes ps) = .ok (Body.itemsVals ps, ⟨b.buf.length, b.sig.length⟩) := by
  have hoks : FramesOk p [⟨hdr ++ m.body, fds⟩] := fun f hfm =>
    List.mem_singleton.mp hfm ▸ ⟨marshalled_frameOk m serial hr hs hrs hdr hm fs hf hok fds hfd, hpos⟩
  have _ := hsig  -- not used: `hb` determines the signature
  refine ⟨complete_history_returns_all _ acts tr st w hoks h hbuf hrest, ?_, Body.parser_roundtrip bo ps b hb hd⟩
  rw [marshal_decode m serial hr hs hrs hdr hm fs hf hok, hmb]

/-- After ANY history of calls and arrivals (timeouts, short reads, raw `read_once`, a frame read half-way), suppose
    everything the peer wrote has arrived in the socket (`w.rest.length ≤ w.avail`: it wrote whole frames and closed,
    nothing more will come). Then the caller's blocking `get_next_message` calls - one per remaining frame,
    each given POSITIVE kernel answers, as few as one byte per `recvmsg` - return exactly the remaining frames, in order,
    each with its own descriptors: together with what was returned before, exactly the frames the peer wrote. Nothing is
    left buffered, nothing unread: the hang-up is seen only by the `recvmsg` AFTER the last message. -/
theorem hangup_delivers_everything_written (frames : List Frame) (acts : List Action) (tr : List Res) (st : State)
    (w : World) (hok : FramesOk p frames)
    (h : run State.empty (World.init p frames) acts = (tr, st, w))
    (hup : AllArrived w) (kss : List (List Nat)) (hen : Enough (frames.drop (msgs tr).length) kss) :
    ∃ st' w', run State.empty (World.init p frames) (acts ++ drainCalls kss) =
        (tr ++ (frames.drop (msgs tr).length).map (fun f => Res.msg f.bytes f.fds), st', w') ∧
      msgs (tr ++ (frames.drop (msgs tr).length).map (fun f => Res.msg f.bytes f.fds)) = frames ∧
      st'.buf = [] ∧ st'.fds = [] ∧ w'.rest = [] := by
  obtain ⟨hI, hk, _, _⟩ := run_init hok h
  obtain ⟨st', w', hr, hI'⟩ := drain_all_arrived _ kss hI hup hen
  refine ⟨st', w', ?_, ?_, hI'.nothing_left⟩
  · rw [run_append, h]
    simp only [hr]
  · rw [msgs_append, msgs_map_msg]
    exact (congrArg (· ++ frames.drop (msgs tr).length) hk).trans (List.take_append_drop ..)

-- the hypotheses of `end_to_end` are met by a concrete message: a signal with body (u32 7, "hi")
def e2ePs : List (Ty × Val) := [(Ty.base .u32, .num 7), (Ty.base .string, .str [104, 105])]
def e2eBody : Body.Body := ⟨.le, [7, 0, 0, 0, 2, 0, 0, 0, 104, 105, 0], ['u', 's'], 0⟩
example : (Body.pushAll (Body.Body.empty .le) (Body.plainItems e2ePs)).map (fun b => (b.buf, b.sig, b.nfds)) = some (e2eBody.buf, e2eBody.sig, 0) := by decide +kernel
def e2eMsg : Msg :=
  { bo := .le, typ := 4, flags := 0, replySerial := none,
    interface := some [97, 46, 98], destination := none, sender := none, member := some [77],
    path := some [47, 111], errorName := none, bodySig := [117, 115], body := e2eBody.buf, nfds := 0 }
example : (marshalHeader e2eMsg 5).isSome = true := by decide +kernel
example : (Spec.Header.entriesFields (Spec.Header.msgEntries e2eMsg)).isSome = true := by decide +kernel
example : Spec.Sig.Denotes e2eBody.sig (Body.itemsTypes e2ePs) := by
  refine ⟨by decide, by decide +kernel, ?_⟩
  unfold Spec.Sig.ValidTypes
  decide +kernel

/-- method call `b` on `/a`, serial 1, no body: 48 bytes -/
def exF1 : Frame :=
  { bytes := [108, 1, 0, 1, 0, 0, 0, 0, 1, 0, 0, 0, 27, 0, 0, 0, 3, 1, 115, 0, 1, 0, 0, 0, 98, 0, 0, 0, 0, 0, 0, 0,
      1, 1, 111, 0, 2, 0, 0, 0, 47, 97, 0, 0, 0, 0, 0, 0],
    fds := [] }

/-- method call `c` on `/`, serial 2, body `y` = 42, UNIX_FDS = 2: 65 bytes, descriptors 7 and 9 -/
def exF2 : Frame :=
  { bytes := [108, 1, 0, 1, 1, 0, 0, 0, 2, 0, 0, 0, 48, 0, 0, 0, 3, 1, 115, 0, 1, 0, 0, 0, 99, 0, 0, 0, 0, 0, 0, 0,
      1, 1, 111, 0, 1, 0, 0, 0, 47, 0, 0, 0, 0, 0, 0, 0, 8, 1, 103, 0, 1, 121, 0, 0, 9, 1, 117, 0, 2, 0, 0, 0, 42],
    fds := [7, 9] }

example : FrameOk exF1 ∧ FrameOk exF2 := by decide +kernel

def all : List Ev := [.deliver 1000, .deliver 1000, .deliver 1000, .deliver 1000]

/-- chunks of 5 (ends inside the fixed header), 9 (inside the field-array length word), 3 (inside the first header
    field), 31 (exactly at the frame boundary), 20, 45: a timed-out `get_next_message`, a raw and a guarded
    `read_once`, short reads (2 of 3 queued bytes), then `get_next_message` calls -/
def exHistory : List Action :=
  [.arrive 5, .call .getNext all, .arrive 9, .call .readOnce [.deliver 9], .arrive 3,
   .call .readMore [.deliver 2], .call .getNext all, .call .getNext [.wouldBlock], .arrive 31,
   .call .getNext all, .arrive 20, .call .getNext all, .call .readMore [], .arrive 45, .call .getNext all,
   .call .getNext all]

example : (run State.empty (World.init (fun _ => 0) [exF1, exF2]) exHistory).1 =
    [.timedOut, .readOk, .readOk, .timedOut, .timedOut, .msg exF1.bytes [], .timedOut, .timedOut,
     .msg exF2.bytes [7, 9], .timedOut] := by decide +kernel

example : msgs (run State.empty (World.init (fun _ => 0) [exF1, exF2]) exHistory).1 = [exF1, exF2] := by decide +kernel

example : msgs (run State.empty (World.init (fun _ => 0) [exF1, exF2]) (oneByte 113)).1 = [exF1, exF2] := by
  decide +kernel

/-- a peer that attaches the descriptors of the second message to its 21st byte (inside the header fields) -/
def exLate : Frame → Nat := fun f => if f = exF2 then 20 else 0

example : FramesOk exLate [exF1, exF2] := by
  unfold FramesOk; decide +kernel

example : (run State.empty (World.init exLate [exF1, exF2]) exHistory).1 =
    [.timedOut, .readOk, .readOk, .timedOut, .timedOut, .msg exF1.bytes [], .timedOut, .timedOut,
     .msg exF2.bytes [7, 9], .timedOut] := by decide +kernel

example : msgs (run State.empty (World.init exLate [exF1, exF2]) (oneByte 113)).1 = [exF1, exF2] := by
  decide +kernel

-- the descriptors are not there before their byte: after 20 bytes of the second message nothing, after 21 both
example : ((run State.empty (World.init exLate [exF2])
      [.arrive 20, .call .readOnce [.deliver 20], .call .readOnce [.deliver 20]]).2.1.fds,
    (run State.empty (World.init exLate [exF2])
      [.arrive 21, .call .readOnce [.deliver 21], .call .readOnce [.deliver 21]]).2.1.fds) = ([], [7, 9]) := by
  decide +kernel

/-- the second frame is 20 of 65 bytes in (its descriptors ride on byte 21) when the peer hangs up -/
def exHalf : List Action :=
  [.arrive 48, .call .getNext all, .arrive 20, .call .getNext all, .arrive 45]

example : (run State.empty (World.init exLate [exF1, exF2]) exHalf).1 = [.msg exF1.bytes [], .timedOut] ∧
    AllArrived (run State.empty (World.init exLate [exF1, exF2]) exHalf).2.2 ∧
    (run State.empty (World.init exLate [exF1, exF2]) exHalf).2.1.buf.length = 20 := by
  unfold AllArrived; decide +kernel

def exAnswers : List Nat := 1 :: 2 :: 1 :: List.replicate 62 1000

example : Enough ([exF1, exF2].drop 1) [exAnswers] := ⟨by decide +kernel, by decide +kernel, trivial⟩

example : (run State.empty (World.init exLate [exF1, exF2]) (exHalf ++ drainCalls [exAnswers])).1 =
    [.msg exF1.bytes [], .timedOut, .msg exF2.bytes [7, 9]] := by decide +kernel

/-- The history of F19, on which a zero-length `recvmsg` loses descriptors: both frames queued, `read_once` three times,
    then two `get_next_message`. The third `read_once` finds a complete buffer: it returns `Ok(())` and reads nothing,
    and the second message is returned WITH its descriptors 7 and 9. -/
theorem read_once_on_complete_buffer_keeps_descriptors :
    (run State.empty (World.init (fun _ => 0) [exF1, exF2])
      [.arrive 113, .call .readOnce all, .call .readOnce all, .call .readOnce all, .call .getNext all,
       .call .getNext all]).1 =
    [.readOk, .readOk, .readOk, .msg exF1.bytes [], .msg exF2.bytes [7, 9]] := by decide +kernel

/-- with both frames queued the third `read_once`, on a complete buffer, changes neither the connection nor the socket -/
example :
    (run State.empty (World.init (fun _ => 0) [exF1, exF2])
      [.arrive 113, .call .readOnce all, .call .readOnce all, .call .readOnce all]).2 =
    (run State.empty (World.init (fun _ => 0) [exF1, exF2]) [.arrive 113, .call .readOnce all, .call .readOnce all]).2 := by
  decide +kernel

/-- the premise of `read_once_on_complete_buffer_is_noop` is reachable, with the next message queued -/
example :
    check (run State.empty (World.init (fun _ => 0) [exF1, exF2])
      [.arrive 113, .call .readOnce all, .call .readOnce all]).2.1 = .whole := by decide +kernel

/-- raw `read_once` calls on complete buffers sprinkled over a chunked history (chunks 48+1, 10, 54; the second
    message's first byte - the one its descriptors ride on - is queued while the first message is complete) -/
example : (run State.empty (World.init (fun _ => 0) [exF1, exF2])
      [.arrive 49, .call .readOnce all, .call .readOnce all, .call .readOnce [], .call .readOnce [.arrive 10, .deliver 7],
       .call .getNext all, .call .readOnce all, .arrive 54, .call .readMore all, .call .readOnce all,
       .call .readOnce [.wouldBlock], .call .getNext all, .call .readOnce all]).1 =
    [.readOk, .readOk, .readOk, .readOk, .msg exF1.bytes [], .readOk, .readOk, .readOk, .readOk,
     .msg exF2.bytes [7, 9], .timedOut] := by decide +kernel

/-- the zero-length `recvmsg` of the kernel model does steal descriptors - it is only never issued -/
example : recvmsg { rest := cells (fun _ => 0) exF2, avail := 65 } 0 5 =
    (.data [] [7, 9], { rest := (108, []) :: (cells (fun _ => 0) exF2).drop 1, avail := 65 }) := by decide +kernel

/-- refused announcements exist: a bad endianness byte, and a field array of 64 MiB + 1 -/
example : bytesNeeded (120 :: exF1.bytes.drop 1) = .invalid := by decide +kernel
example : bytesNeeded ([108, 1, 0, 1, 0, 0, 0, 0, 1, 0, 0, 0, 1, 0, 0, 4] ++ exF1.bytes.drop 16) = .tooLong := by
  decide +kernel

end Rustbus.Recv

#print axioms Rustbus.Recv.announcement_depends_on_first_16
#print axioms Rustbus.Recv.refill_issues_no_zero_length_recvmsg
#print axioms Rustbus.Recv.never_reports_closed
#print axioms Rustbus.Recv.reassembly
#print axioms Rustbus.Recv.never_reads_past_frame
#print axioms Rustbus.Recv.capacity_bounded
#print axioms Rustbus.Recv.reserve_growth_clamped
#print axioms Rustbus.Recv.timeout_is_noop
#print axioms Rustbus.Recv.timed_out_call_is_invisible
#print axioms Rustbus.Recv.read_once_on_complete_buffer_is_noop
#print axioms Rustbus.Recv.read_whole_message_always_reads
#print axioms Rustbus.Recv.complete_history_returns_all
#print axioms Rustbus.Recv.chunking_irrelevant
#print axioms Rustbus.Recv.one_byte_at_a_time
#print axioms Rustbus.Recv.refused_announcement_reads_nothing
#print axioms Rustbus.Recv.read_once_on_complete_buffer_keeps_descriptors
#print axioms Rustbus.Recv.end_to_end
#print axioms Rustbus.Recv.hangup_delivers_everything_written
