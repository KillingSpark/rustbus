import RustbusModel.Lemmas.Header
/-!
C06 — Header decoding accepts exactly valid headers and skips unknown fields.
-/
namespace Rustbus.Header
open Rustbus Rustbus.Bytes Rustbus.Wire Rustbus.Spec.Wire Rustbus.Spec.Header

/-- The fixed part: accepted exactly for a known endianness flag, message type 1–4, protocol version 1
    and a non-zero serial; the decoded values are what the bytes say. -/
theorem fixed_iff_valid (buf : List UInt8) (fx : Fixed) :
    decodeFixed buf = some fx ↔ (12 ≤ buf.length ∧ fixedOk fx ∧ slice buf 0 12 = fixedBytes fx) :=
  decodeFixed_iff

/-- For ARBITRARY bytes: header decoding succeeds (with fixed part `fx`, fields `fs`, `used` bytes) AND the field
    array is at most 64 MiB exactly when the bytes start with a spec-valid header — valid fixed part, a well-formed
    `a(yv)` field array in which every known field has its prescribed value type and a valid value, unknown codes
    ≥ 10 carry any valid variant, no code 0, no known field twice, the fields required for the message type
    present — and `fs` are exactly the known fields the bytes denote, in order. `unmarshal_header_fields` does not
    check the 64 MiB itself (the receive loop refuses such a frame before it is decoded). "No known field twice,
    required fields present" is `fieldsOk`, the model of `validate_header_fields`, on both sides. -/
theorem decode_iff_valid (buf : List UInt8) (fx : Fixed) (fs : List Field) (used : Nat) :
    (decodeHeader buf = some (fx, fs, used) ∧ used - 16 ≤ maxArrayLen) ↔ ValidHeader buf fx fs used :=
  decodeHeader_iff

/-- Unknown fields are skipped without disturbing the others, on the denotation: inserting ONE allowed entry with
    an unknown code (≥ 10, any valid variant) anywhere in an entry list does not change the known fields the
    list denotes (`entriesFields`). -/
theorem unknown_skipped (es₁ es₂ : List Entry) (u : Entry) (hu : entryField u = some none) :
    entriesFields (es₁ ++ u :: es₂) = entriesFields (es₁ ++ es₂) := by
  induction es₁ with
  | nil => simp only [List.nil_append, entriesFields, hu]; cases entriesFields es₂ <;> rfl
  | cons e es ih => simp only [List.cons_append, entriesFields, ih]

/-- … and therefore the decoder returns the same fields for two valid headers whose entry lists differ by one
    such entry. -/
theorem unknown_skipped_decode (buf buf' : List UInt8) (fx : Fixed) (fs : List Field) (used used' : Nat)
    (es₁ es₂ : List Entry) (u : Entry) (hu : entryField u = some none)
    (hfx : fixedOk fx) (h16 : 16 ≤ used) (hub : used ≤ buf.length) (h16' : 16 ≤ used') (hub' : used' ≤ buf'.length)
    (hfix : slice buf 0 12 = fixedBytes fx) (hfix' : slice buf' 0 12 = fixedBytes fx)
    (henc : enc fx.bo 12 fieldArrayTy (.arr ((es₁ ++ es₂).map entryVal)) = some (slice buf 12 (used - 12)))
    (henc' : enc fx.bo 12 fieldArrayTy (.arr ((es₁ ++ u :: es₂).map entryVal)) = some (slice buf' 12 (used' - 12)))
    (hfs : entriesFields (es₁ ++ es₂) = some fs) (hok : fieldsOk fx.typ fs = true) :
    (decodeHeader buf).map (·.2.1) = some fs ∧ (decodeHeader buf').map (·.2.1) = some fs := by
  have v1 : ValidHeader buf fx fs used := ⟨hfx, h16, hub, hfix, es₁ ++ es₂, henc, hfs, hok⟩
  have v2 : ValidHeader buf' fx fs used' :=
    ⟨hfx, h16', hub', hfix', es₁ ++ u :: es₂, henc', by rw [unknown_skipped es₁ es₂ u hu]; exact hfs, hok⟩
  have d1 := ((decode_iff_valid buf fx fs used).mpr v1).1
  have d2 := ((decode_iff_valid buf' fx fs used').mpr v2).1
  simp [d1, d2]

/-- The total message length announced to the receive loop equals header + padding + body length: for
    every decodable message with a non-empty body, within the limits (message ≤ 128 MiB, announced field array
    ≤ 64 MiB), the frame size computed from ANY prefix of at least 16 bytes is the length of the whole message.
    (With an empty body `unmarshal_next_message` ignores what follows the header, so a decodable buffer may be
    longer than announced.) -/
theorem frame_length (buf : List UInt8) (fx : Fixed) (fs : List Field) (body : List UInt8)
    (h : decodeMessage buf = some (fx, fs, body)) (hb : fx.bodyLen ≠ 0)
    (hlim : buf.length ≤ maxMessageLen) (hfl : valOf fx.bo (slice buf 12 4) ≤ maxArrayLen) :
    bytesNeeded buf = .bytes buf.length ∧ ∀ k, 16 ≤ k → bytesNeeded (buf.take k) = .bytes buf.length :=
  bytesNeeded_frame buf fx fs body h hb hlim hfl

/-- Nothing beyond the protocol's 128 MiB is ever announced to the receive loop. -/
theorem announced_within_limit (buf : List UInt8) (n : Nat) (h : bytesNeeded buf = .bytes n) :
    n ≤ maxMessageLen ∨ (buf.length < 16 ∧ n = 16) :=
  bytesNeeded_limits buf n h

end Rustbus.Header

#print axioms Rustbus.Header.fixed_iff_valid
#print axioms Rustbus.Header.decode_iff_valid
#print axioms Rustbus.Header.unknown_skipped
#print axioms Rustbus.Header.unknown_skipped_decode
#print axioms Rustbus.Header.frame_length
#print axioms Rustbus.Header.announced_within_limit
