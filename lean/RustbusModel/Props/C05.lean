import RustbusModel.Lemmas.Header
/-!
C05 — Whole messages round-trip through header marshalling and are spec-conformant.
`marshalHeader` models `wire::marshal::marshal`, `decodeMessage` the library's decoders
(`unmarshal_header` + `unmarshal_dynamic_header` + `unmarshal_next_message`); the specification side is
`Spec/Header.lean`: 12 fixed bytes, then the generic `a(yv)` encoding (`Wire.enc`, C02) of the entries.
-/
namespace Rustbus.Header
open Rustbus Rustbus.Bytes Rustbus.Wire Rustbus.Spec.Wire Rustbus.Spec.Header

/-- Conformance: the marshaller succeeds exactly when the type is 1–4, all names / the body signature are valid
    and the message is not oversized, and then emits: the 12-byte fixed header (endianness flag, type,
    flags, version 1, body length = size of the body, serial), the field array as the `a(yv)` encoding of
    exactly the entries of `msgEntries` — SIGNATURE present iff the body is non-empty and equal to the
    body's signature, UNIX_FDS present iff descriptors are attached and equal to their number — and zero
    padding to an 8-byte boundary. -/
theorem marshal_conformant (m : Msg) (serial : Nat) (hr : msgInRange m serial) (out : List UInt8) :
    marshalHeader m serial = some out ↔
      (1 ≤ m.typ ∧ m.typ ≤ 4 ∧
       ∃ arr, enc m.bo 12 fieldArrayTy (.arr ((msgEntries m).map entryVal)) = some arr ∧
         out = padTo 8 (fixedBytes ⟨m.bo, m.typ, m.flags, m.body.length, serial⟩ ++ arr) ∧
         out.length + m.body.length ≤ maxMessageLen ∧
         (∀ e ∈ msgEntries m, e.1 ≠ 5 → e.1 ≠ 9 → ∃ f, entryField e = some (some f))) :=
  marshalHeader_spec hr

/-- The Invalid type is refused. -/
theorem invalid_type_refused (m : Msg) (serial : Nat) (h : m.typ = 0) : marshalHeader m serial = none := by
  simp [marshalHeader, h]

/-- A message with an invalid interface, member, error name, destination or sender is refused (never put
    on the wire). An invalid object path or body signature cannot meet `hbad` (`entryField` accepts every
    string there); their refusal is the `enc … = some arr` conjunct of `marshal_conformant`. -/
theorem invalid_name_refused (m : Msg) (serial : Nat) (hr : msgInRange m serial)
    (e : Entry) (he : e ∈ msgEntries m) (h5 : e.1 ≠ 5) (h9 : e.1 ≠ 9)
    (hbad : ∀ f, entryField e ≠ some (some f)) : marshalHeader m serial = none := by
  cases h : marshalHeader m serial with
  | none => rfl
  | some out =>
    obtain ⟨_, _, _, _, _, _, hall⟩ := (marshal_conformant m serial hr out).mp h
    obtain ⟨f, hf⟩ := hall e he h5 h9
    exact absurd hf (hbad f)

/-- Round trip: the library's own decoders turn the marshalled bytes (header ++ body) back into a message
    with identical byte order, type, flags, serial, header fields (incl. SIGNATURE and UNIX_FDS), and body
    bytes — for every message that carries the fields required for its type. `hrs` is not used: `hf` already
    excludes a zero reply serial, for which `entryField` has no field. -/
theorem marshal_unmarshal (m : Msg) (serial : Nat) (hr : msgInRange m serial) (hs : 0 < serial)
    (hrs : m.replySerial ≠ some 0) (out : List UInt8)
    (h : marshalHeader m serial = some out) (fs : List Field)
    (hf : entriesFields (msgEntries m) = some fs) (hok : fieldsOk m.typ fs = true) :
    decodeMessage (out ++ m.body) = some (⟨m.bo, m.typ, m.flags, m.body.length, serial⟩, fs, m.body) :=
  marshal_decode m serial hr hs hrs out h fs hf hok

/-- The flag helpers agree with the bits on the wire, for all three flags and all 256 flag bytes
    (a complete finite table, checked by kernel evaluation): `is_set` is the bit test, `set` sets that
    bit, `unset` clears it, `toggle` flips it, each leaves the other two flags as they are, results stay in
    a byte. (Bits 3–7 of the flag byte are not spoken of.) -/
theorem flags_agree : ∀ i : Fin 3, ∀ f : Fin 256,
    (isSet i f = ((f.val / flagRaw i) % 2 == 1)) ∧
    isSet i (setFlag i f) = true ∧ isSet i (unsetFlag i f) = false ∧
    isSet i (toggleFlag i f) = !isSet i f ∧
    setFlag i f < 256 ∧ unsetFlag i f < 256 ∧ toggleFlag i f < 256 ∧
    (∀ j : Fin 3, j ≠ i → (isSet j (setFlag i f) = isSet j f ∧ isSet j (unsetFlag i f) = isSet j f ∧
                           isSet j (toggleFlag i f) = isSet j f)) := by
  decide +kernel

end Rustbus.Header

#print axioms Rustbus.Header.marshal_conformant
#print axioms Rustbus.Header.invalid_type_refused
#print axioms Rustbus.Header.invalid_name_refused
#print axioms Rustbus.Header.marshal_unmarshal
#print axioms Rustbus.Header.flags_agree
