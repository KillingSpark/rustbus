import RustbusModel.Lemmas.Api
import RustbusModel.Lemmas.ApiHasSig
import RustbusModel.Lemmas.Marshal
import RustbusModel.Props.C01
import RustbusModel.Model.MarshalParam
/-!
C16 — Dynamic, trait, derive and macro APIs encode and decode identically.

In the model every API denotes a pair (type, value): a derived struct is the struct of its fields, a derived
or macro enum value is the variant of the chosen case, a Param tree is its (type, value). All marshallers
are the one mechanism `marshalM` (= `enc`, C02) and all decoders the one decoder `dec` (C03) — that the
Rust code of each API behaves like them is the correspondence run of this check (bytes and signatures of
equivalent values through every API, every API decoding every other's output). What remains to be
PROVED is the behaviour that is specific to the generated code: the case selection of enums, the
Catchall skipping, and `has_sig`.
-/
namespace Rustbus.Api
open Rustbus Rustbus.Bytes Rustbus.Wire Rustbus.Spec.Wire Rustbus.Marshal Rustbus.Enums Rustbus.HasSig

/-- Equivalent values produce identical bytes whichever marshalling MECHANISM of the model runs: the typed API's fast path
    for slices of fixed-size elements (length first, element bytes copied: `marshalSliceFastM`), the element-wise path with
    placeholder and back-patching shared by the traits and the Param API (`marshalM`), and the Param entry point with its
    nesting guard (`marshalParam`, when it accepts) all append exactly `enc`. (Derive and macros generate calls to the
    trait mechanism.) -/
theorem apis_encode_identically (bo : ByteOrder) (buf : List UInt8) :
    (∀ (b : Base) (k : Nat) (ns : List Nat), fastElem b = true → b.fixedSize = some k → (∀ n ∈ ns, n < 256 ^ k) →
      marshalSliceFastM bo b k ns buf = marshalM bo (.array (.base b)) (.arr (ns.map Val.num)) buf) ∧
    (∀ (t : Ty) (v : Val) (out : List UInt8), marshalParam bo t v buf = some out →
      marshalM bo t v buf = some out ∧ ∃ bs, enc bo buf.length t v = some bs ∧ out = buf ++ bs) := by
  constructor
  · intro b k ns hb hk hn
    rw [marshalSliceFastM_eq_enc bo b k ns buf hb hk hn, marshalM_eq_enc]
  · intro t v out h
    unfold marshalParam at h
    split at h
    · exact ⟨h, marshalM_eq_some.1 h⟩
    · cases h

/-- The decoder returns the value the encoder wrote (C01's `roundtrip`; in the model all APIs share the one `enc` and the
    one `unmarshal`) — for values nested at most 64 levels whose descriptor indices are below `nfds`; a deeper value still has
    an encoding (`enc` has no depth limit) and is refused by the decoder (C18 `deeper_than_64_rejected`). -/
theorem apis_cross_decode (bo : ByteOrder) (t : Ty) (v : Val) (pre bs suf : List UInt8) (nfds : Nat)
    (h : enc bo pre.length t v = some bs) (hd : depthOf t v ≤ maxDepth) (hfd : fdsBelow nfds t v = true) :
    unmarshal bo (pre ++ (bs ++ suf)) nfds pre.length t = some (v, pre.length + bs.length) :=
  roundtrip bo t v pre bs suf nfds h hd hfd

/-- A derived enum whose cases are types a variant may hold (`variantTypeOk`: well-formed, legal nesting, signature of at
    most 255 characters) decodes exactly the variants whose signature is one of its cases — to the payload the
    generic variant decoder sees, consuming the same bytes — and reports an error for every other variant. -/
theorem derive_enum_is_variant_of_case (bo : ByteOrder) (buf : List UInt8) (nfds : Option Nat)
    (cases : List Ty) (hc : ∀ t ∈ cases, variantTypeOk t = true) (off lim i : Nat) (v : Val) (o' : Nat) :
    decDerive bo buf nfds cases off lim = some (i, v, o') ↔
      ∃ t, findCase cases (sigBytes t) = some (i, t) ∧
        dec bo buf nfds maxDepth .variant off lim = some (.variant t v, o') :=
  decDerive_iff hc

/-- A macro enum facing a case it does not know skips exactly that value: `Catchall(t)` ending at `o'`
    iff the bytes are a valid variant of a type `t` outside its cases ending at `o'` — so whatever follows
    in a larger body is read from the right place. -/
theorem catchall_skips_exactly (bo : ByteOrder) (buf : List UInt8) (nfds : Option Nat) (cases : List Ty)
    (off lim : Nat) (t : Ty) (o' : Nat) :
    decCatchall bo buf nfds cases off lim = some (.catchall t, o') ↔
      (findCase cases (sigBytes t) = none ∧
       ∃ v, dec bo buf none maxDepth .variant off lim = some (.variant t v, o')) :=
  decCatchall_unknown_iff

/-- `has_sig` (typed traits, tuples, derived structs) never panics on the signature of a well-formed
    single type and answers exactly whether it is the type's own signature. In particular a derived type
    asked to match a different struct signature (shorter, longer, other fields) reports a mismatch. -/
theorem has_sig_exact (t t0 : Ty) (ht : t.wf = true) (h0 : t0.wf = true) :
    (hasSig t t0.toStr = some true ↔ t = t0) ∧ (hasSig t t0.toStr = some false ↔ t ≠ t0) ∧
    hasSig t t0.toStr ≠ none := by
  have _ := ht; have _ := h0  -- not used: `hasSig_toStr` and `toStr_inj` hold for every type
  have hi : t.toStr = t0.toStr ↔ t = t0 := ⟨toStr_inj t t0, congrArg _⟩
  simp [hasSig_toStr, hi]

example : hasSig (.struct [.base .u32, .base .string]) "(us)".toList = some true := by decide +kernel
example : hasSig (.struct [.base .u32, .base .string]) "(u)".toList = some false := by decide +kernel
example : hasSig (.struct [.base .u32]) "(us)".toList = some false := by decide +kernel
example : hasSig (.array (.base .byte)) "a{sv}".toList = some false := by decide +kernel

end Rustbus.Api

#print axioms Rustbus.Api.apis_encode_identically
#print axioms Rustbus.Api.apis_cross_decode
#print axioms Rustbus.Api.derive_enum_is_variant_of_case
#print axioms Rustbus.Api.catchall_skips_exactly
#print axioms Rustbus.Api.has_sig_exact
