import RustbusModel.Lemmas.RpcRun
/-!
C14 — RpcConn delivers every accepted message exactly once to the right consumer.

A history is a finite list of operations `Op`: the peer writes a message (`arrive m`) or the client
calls `try_get_* / wait_* / refill_once / refill_all`, in any interleaving. Every message carries
the verdict of the filter on it (`accepted`), so "for all filters" is "for all taggings".
`run State.init ops = some (tr, st)`: the history ran (no `unwrap()` panic, see `no_panic`) with
trace `tr` (operation, observation) and final state `st`. All theorems hold for ALL histories of
ANY length; the hypothesis on arrivals is the one of the property (distinct reply serials), plus
`UniqueIds` where the statement talks about "the same arrival twice". The vocabulary is that of Spec/Rpc.lean.
-/
namespace Rustbus.Rpc

/-- Refinement: after any history from a fresh `RpcConn`, with `c` = the arrivals read from the
    socket so far (`arrivals ops = c ++ st.wire`), the concrete state represents the three abstract
    queues of `c` and the owed error replies (`Refines`): accepted signals of `c` = delivered to the
    signal consumer ++ `st.signals` (in order), the same for calls, accepted replies/errors of `c` =
    delivered to response waiters ++ stored in `st.responses` (as multisets; stored under, and
    delivered under, their reply serial), one unknown-method error per rejected call of `c` =
    `st.sent` ++ returned by `refill_all` (as multisets). -/
theorem refinement (ops : List Op) (tr : List (Op × Obs)) (st : State)
    (hd : DistinctReplySerials (arrivals ops)) (hr : run State.init ops = some (tr, st)) :
    ∃ c, arrivals ops = c ++ st.wire ∧ Refines c (events tr) (returned tr) st := by
  have := Tracks.init.run (a := []) hd hr
  rwa [List.nil_append, List.nil_append, List.nil_append] at this

/-- Step commutation behind `refinement`: from ANY state that represents abstract queues, one
    operation moves some arrivals from the socket to "consumed", appends its deliveries and
    returned errors, and the new state represents the new abstract queues. -/
theorem refinement_step (c : List Msg) (evs : List (Consumer × Msg)) (ret : List ErrReply)
    (st st' : State) (op : Op) (obs : Obs) (h : Refines c evs ret st)
    (hd : DistinctReplySerials (c ++ st.wire ++ arrivals [op])) (hs : step st op = some (obs, st')) :
    ∃ c', c ++ st.wire ++ arrivals [op] = c' ++ st'.wire ∧
      Refines c' (evs ++ deliveredOf (op, obs)) (ret ++ returnedOf (op, obs)) st' :=
  Tracks.step ⟨c, rfl, h⟩ hd hs

/-- The property's "exactly once", as at most once + conservation (that a stored message is handed out when asked
    for is `stored_message_is_returned`): every message handed out by any try/wait operation is an accepted
    arrival; no arrival is handed out twice; the accepted arrivals are, as a multiset, exactly
    {handed out} + {still stored in signals/calls/responses} + {accepted ones still in the socket};
    and these three parts are pairwise disjoint (no tag occurs twice in their concatenation). -/
theorem exactly_once (ops : List Op) (tr : List (Op × Obs)) (st : State)
    (hu : UniqueIds (arrivals ops)) (hd : DistinctReplySerials (arrivals ops))
    (hr : run State.init ops = some (tr, st)) :
    (∀ m ∈ handed tr, m ∈ arrivals ops ∧ m.accepted = true) ∧
    ((handed tr).map (·.id)).Nodup ∧
    ((arrivals ops).filter (·.accepted)).Perm
      (handed tr ++ queued st ++ st.wire.filter (·.accepted)) ∧
    ((handed tr ++ queued st ++ st.wire).map (·.id)).Nodup := by
  obtain ⟨c, hc, href⟩ := refinement ops tr st hd hr
  have hcons : (c.filter (·.accepted)).Perm (handed tr ++ queued st) := href.conservation
  have hall : ((handed tr ++ queued st ++ st.wire).map (·.id)).Nodup := by
    rw [((hcons.symm.append_right st.wire).map (·.id)).nodup_iff]
    refine (List.Sublist.map _ ?_).nodup hu
    rw [hc]
    exact List.filter_sublist.append (.refl _)
  refine ⟨fun m hm => ?_, ?_, ?_, hall⟩
  · obtain ⟨h1, h2⟩ := List.mem_filter.mp (hcons.mem_iff.mpr (List.mem_append_left _ hm))
    exact ⟨hc ▸ List.mem_append_left _ h1, h2⟩
  · rw [List.append_assoc] at hall
    exact ((List.sublist_append_left _ _).map _).nodup hall
  · rw [hc, List.filter_append]
    exact hcons.append_right _

/-- Right consumer, by consumer: whatever `try_get_signal`/`wait_signal` hands out is an accepted
    signal, whatever `try_get_call`/`wait_call` hands out is an accepted call, and whatever
    `try_get_response(s)`/`wait_response(s)` hands out is an accepted reply or error whose reply
    serial is `s`. -/
theorem right_consumer (ops : List Op) (tr : List (Op × Obs)) (st : State)
    (hd : DistinctReplySerials (arrivals ops)) (hr : run State.init ops = some (tr, st)) :
    ∀ e ∈ events tr,
      match e.1 with
      | .signal => accSignal e.2 = true
      | .call => accCall e.2 = true
      | .response s => accResp e.2 = true ∧ e.2.replySerial = some s := by
  obtain ⟨c, _, href⟩ := refinement ops tr st hd hr
  rintro ⟨k, m⟩ he
  cases k with
  | signal =>
    have : m ∈ sigQueue c := href.signals ▸ List.mem_append_left _ (mem_toConsumer he)
    exact (List.mem_filter.mp this).2
  | call =>
    have : m ∈ callQueue c := href.calls ▸ List.mem_append_left _ (mem_toConsumer he)
    exact (List.mem_filter.mp this).2
  | response s =>
    have : m ∈ respSet c :=
      href.responses.mem_iff.mpr (List.mem_append_left _ (mem_toResponders he))
    exact ⟨(List.mem_filter.mp this).2, href.underSerial _ he s rfl⟩

/-- Right consumer, by message kind: a signal is only ever returned by `try_get_signal`/`wait_signal`,
    a call only by `try_get_call`/`wait_call`, a reply or error only by
    `try_get_response(s)`/`wait_response(s)` with `s` = its reply serial. -/
theorem right_consumer_by_kind (ops : List Op) (tr : List (Op × Obs)) (st : State)
    (hd : DistinctReplySerials (arrivals ops)) (hr : run State.init ops = some (tr, st)) :
    ∀ k m, (k, m) ∈ events tr →
      (isSignal m = true → k = .signal) ∧ (isCall m = true → k = .call) ∧
      (isResp m = true → ∃ s, k = .response s ∧ m.replySerial = some s) := by
  intro k m he
  have h := right_consumer ops tr st hd hr (k, m) he
  -- the consumer fixes the type of `m`, and the types exclude each other
  simp only [isSignal_iff, isCall_iff, isResp_iff]
  cases k with
  | signal =>
    simp only [accSignal, Bool.and_eq_true, isSignal_iff] at h
    simp [h.2]
  | call =>
    simp only [accCall, Bool.and_eq_true, isCall_iff] at h
    simp [h.2]
  | response s =>
    simp only [accResp, Bool.and_eq_true, isResp_iff] at h
    rcases h.1.2 with ht | ht <;> simp [ht, h.2]

/-- The message returned for serial `s` is THE accepted reply/error of the history that answers
    `s` (the abstract partial map reply serial ↦ message, looked up at `s`). -/
theorem response_is_the_reply (ops : List Op) (tr : List (Op × Obs)) (st : State)
    (hd : DistinctReplySerials (arrivals ops)) (hr : run State.init ops = some (tr, st))
    (s : Nat) (m : Msg) (he : (Consumer.response s, m) ∈ events tr) :
    respMap (arrivals ops) s = some m := by
  obtain ⟨c, hc, href⟩ := refinement ops tr st hd hr
  have h2 : m ∈ respSet c :=
    href.responses.mem_iff.mpr (List.mem_append_left _ (mem_toResponders he))
  obtain ⟨h3, ha⟩ := List.mem_filter.mp h2
  exact respMap_of_mem hd (hc ▸ List.mem_append_left _ h3) ha (href.underSerial _ he s rfl)

/-- FIFO: the accepted signals of the history, in arrival order, are exactly: those handed out by
    `try_get_signal`/`wait_signal` (in the order they were handed out), then those still in
    `signals`, then those still in the socket. In particular the handed-out sequence is a prefix of
    the accepted-arrival sequence. The same for calls. -/
theorem fifo (ops : List Op) (tr : List (Op × Obs)) (st : State)
    (hd : DistinctReplySerials (arrivals ops)) (hr : run State.init ops = some (tr, st)) :
    sigQueue (arrivals ops) = handedTo .signal tr ++ st.signals ++ sigQueue st.wire ∧
    callQueue (arrivals ops) = handedTo .call tr ++ st.calls ++ callQueue st.wire ∧
    handedTo .signal tr <+: sigQueue (arrivals ops) ∧
    handedTo .call tr <+: callQueue (arrivals ops) := by
  obtain ⟨c, hc, href⟩ := refinement ops tr st hd hr
  have h1 : sigQueue (arrivals ops) = handedTo .signal tr ++ st.signals ++ sigQueue st.wire := by
    rw [hc, sigQueue_append, href.signals]; rfl
  have h2 : callQueue (arrivals ops) = handedTo .call tr ++ st.calls ++ callQueue st.wire := by
    rw [hc, callQueue_append, href.calls]; rfl
  refine ⟨h1, h2, ?_, ?_⟩
  · rw [h1, List.append_assoc]; exact List.prefix_append _ _
  · rw [h2, List.append_assoc]; exact List.prefix_append _ _

/-- A message the filter rejects is never handed out, by any operation. -/
theorem rejected_never_delivered (ops : List Op) (tr : List (Op × Obs)) (st : State)
    (hd : DistinctReplySerials (arrivals ops)) (hr : run State.init ops = some (tr, st)) :
    ∀ m, m.accepted = false → m ∉ handed tr := by
  intro m hacc hm
  obtain ⟨c, _, href⟩ := refinement ops tr st hd hr
  have : m ∈ c.filter (·.accepted) :=
    href.conservation.mem_iff.mpr (List.mem_append_left _ hm)
  simp [hacc] at this

/-- Rejected calls are answered exactly once: with `c` = the arrivals read so far (no longer in the
    socket), the error replies produced — written to the peer (`st.sent`) or returned by
    `refill_all` (`returned tr`) — are, as a multiset, exactly one unknown-method error per rejected
    call in `c`, carrying that call's serial as reply serial and its sender as destination.
    Hence: none for any other message, never two for the same call, as many errors as rejected
    calls read. -/
theorem rejected_call_answered_once (ops : List Op) (tr : List (Op × Obs)) (st : State)
    (hd : DistinctReplySerials (arrivals ops)) (hr : run State.init ops = some (tr, st)) :
    ∃ c, arrivals ops = c ++ st.wire ∧
      (st.sent ++ returned tr).Perm ((c.filter rejCall).map (fun call =>
        { replySerial := call.serial, dest := call.sender,
          errorName := "org.freedesktop.DBus.Error.UnknownMethod".toList : ErrReply })) ∧
      (st.sent ++ returned tr).length = (c.filter rejCall).length ∧
      (∀ e ∈ st.sent ++ returned tr, ∃ call ∈ c, call.accepted = false ∧ call.typ = .call ∧
        e.replySerial = call.serial ∧ e.dest = call.sender) := by
  obtain ⟨c, hc, href⟩ := refinement ops tr st hd hr
  have hp : (st.sent ++ returned tr).Perm ((c.filter rejCall).map unknownMethod) := href.errors.symm
  refine ⟨c, hc, hp, by rw [hp.length_eq, List.length_map], fun e he => ?_⟩
  obtain ⟨call, hcall, rfl⟩ := List.mem_map.mp (hp.mem_iff.mp he)
  obtain ⟨h1, h2⟩ := List.mem_filter.mp hcall
  simp only [rejCall, Bool.and_eq_true, Bool.not_eq_true', isCall_iff] at h2
  exact ⟨call, h1, h2.1, h2.2, rfl, rfl⟩

/-- If every reply and error that arrives carries a reply serial (what header validation, C06,
    guarantees for every message that `get_next_message` returns), no history reaches the
    `response_serial.unwrap()` panic. -/
theorem no_panic (ops : List Op) (hw : WellFormed (arrivals ops)) :
    (run State.init ops).isSome = true :=
  run_isSome ops State.init fun m hm ha => hw m hm (Bool.and_eq_true_iff.mp ha).2

/-- Without the precondition of `no_panic` the `unwrap()` panic is reachable (the model does not hide it): an accepted
    reply without REPLY_SERIAL kills `refill_once`. -/
theorem panic_reachable :
    run State.init [.arrive ⟨1, .reply, 7, none, none, true⟩, .refillOnce] = none := by
  decide

/-- A wait reports "would block" only when it has read everything that was in the socket. (The loop of the model runs on
    fuel; that it never runs out is `wait_read` in `Lemmas/RpcRun`.) -/
theorem wait_blocked_only_when_drained (st st' : State) (k : Consumer)
    (h : wait st k = some (none, st')) : st'.wire = [] :=
  (wait_blocked h).2

/-- A message that is already stored for a consumer - the oldest signal, the oldest call, the reply or error filed
    under the serial asked for - is handed out by the very next `try_get_*` / `wait_*` of that consumer: without
    reading the socket, without writing anything, whatever else is stored or queued. -/
theorem stored_message_is_returned (st : State) (k : Consumer) (m : Msg) (h : stored st k = some m) :
    (tryGet st k).1 = some m ∧ wait st k = some (some m, (tryGet st k).2) ∧
    (tryGet st k).2.wire = st.wire ∧ (tryGet st k).2.sent = st.sent := by
  have ht : (tryGet st k).1 = some m := by rw [tryGet_is_stored, h]
  exact ⟨ht, wait_hit ht, tryGet_frame st k⟩

/-- A `wait_*` that reports "would block" has read everything that was in the socket and nothing for its consumer
    is stored. -/
theorem blocked_wait_means_absent (st st' : State) (k : Consumer) (h : wait st k = some (none, st')) :
    stored st' k = none ∧ st'.wire = [] :=
  wait_blocked h

-- non-vacuity: a reply filed under serial 5 next to another one, and a signal still in the socket
def exStored : State :=
  State.mk [] [] [(6, Msg.mk 4 .error 13 (some 6) none true), (5, Msg.mk 3 .reply 12 (some 5) none true)]
    [Msg.mk 1 .signal 10 none none true] []
example : stored exStored (.response 5) = some (Msg.mk 3 .reply 12 (some 5) none true) := by decide

section Examples

private def sig1 : Msg := ⟨1, .signal, 10, none, some ":1.7".toList, true⟩
private def callR : Msg := ⟨2, .call, 11, none, some ":1.8".toList, false⟩
private def rep5 : Msg := ⟨3, .reply, 12, some 5, some ":1.9".toList, true⟩
private def err6 : Msg := ⟨4, .error, 13, some 6, none, true⟩
private def sigR : Msg := ⟨5, .signal, 14, none, some ":1.7".toList, false⟩
private def callA : Msg := ⟨6, .call, 15, none, some ":1.8".toList, true⟩
private def callR2 : Msg := ⟨7, .call, 16, none, none, false⟩
private def repR : Msg := ⟨8, .reply, 17, some 9, none, false⟩
private def sig3 : Msg := ⟨9, .signal, 18, none, none, true⟩
private def callR3 : Msg := ⟨10, .call, 19, none, some ":1.8".toList, false⟩

private def hist : List Op :=
  [.arrive sig1, .arrive callR, .arrive rep5, .tryResponse 5, .waitResponse 5,
   .arrive err6, .arrive sigR, .arrive callA, .arrive callR2, .arrive repR, .refillAll,
   .trySignal, .trySignal, .waitCall, .tryResponse 6, .tryResponse 9, .refillOnce, .arrive sig3,
   .waitCall, .tryCall, .arrive callR3, .refillOnce]

/-- what the history does: the reply is not there before the socket is read; `wait_response(5)`
    reads past the signal and the rejected call (which is answered at once) up to the reply;
    `refill_all` returns the error for the second rejected call; the rejected reply and signal
    vanish; `wait_call` with nothing to come reads the late signal and blocks. -/
example : (run State.init hist).map (fun r => (r.1.map (·.2), r.2)) = some
    ([.arrived, .arrived, .arrived, .tried none, .got rep5,
      .arrived, .arrived, .arrived, .arrived, .arrived, .drained [unknownMethod callR2],
      .tried (some sig1), .tried none, .got callA, .tried (some err6), .tried none, .timedOut, .arrived,
      .blocked, .tried none, .arrived, .refilled .call],
     { signals := [sig3], calls := [], responses := [], wire := [],
       sent := [unknownMethod callR, unknownMethod callR3] }) := by
  rfl

example : UniqueIds (arrivals hist) := by unfold UniqueIds; decide +kernel
example : WellFormed (arrivals hist) := by
  unfold WellFormed; decide +kernel
example : DistinctReplySerials (arrivals hist) := by
  unfold DistinctReplySerials; decide +kernel

/-- Why "distinct reply serials" is part of the property: with two accepted replies to the same
    serial the `HashMap` keeps only the later one — the earlier is neither handed out nor stored. -/
example :
    let a : Msg := ⟨1, .reply, 10, some 5, none, true⟩
    let b : Msg := ⟨2, .reply, 11, some 5, none, true⟩
    (run State.init [.arrive a, .arrive b, .refillAll, .tryResponse 5, .tryResponse 5]).map
        (fun r => (r.1.map (·.2), r.2)) =
      some ([.arrived, .arrived, .drained [], .tried (some b), .tried none], State.init) := by
  rfl

end Examples

end Rustbus.Rpc

#print axioms Rustbus.Rpc.refinement
#print axioms Rustbus.Rpc.refinement_step
#print axioms Rustbus.Rpc.exactly_once
#print axioms Rustbus.Rpc.right_consumer
#print axioms Rustbus.Rpc.right_consumer_by_kind
#print axioms Rustbus.Rpc.response_is_the_reply
#print axioms Rustbus.Rpc.fifo
#print axioms Rustbus.Rpc.rejected_never_delivered
#print axioms Rustbus.Rpc.rejected_call_answered_once
#print axioms Rustbus.Rpc.no_panic
#print axioms Rustbus.Rpc.panic_reachable
#print axioms Rustbus.Rpc.wait_blocked_only_when_drained
#print axioms Rustbus.Rpc.stored_message_is_returned
#print axioms Rustbus.Rpc.blocked_wait_means_absent
