import RustbusModel.Lemmas.DecCost
import RustbusModel.Lemmas.DecCostWindow
import RustbusModel.Lemmas.DecCostSlice
import RustbusModel.Lemmas.ApiHasSig
/-!
C04 — No input bytes can crash, hang or exhaust a decoder.

The decoders are the TOTAL functions `Wire.dec` (one model of `validate_raw`, the Param unmarshaller and the
typed unmarshallers, tied to the three implementations by the C03/C16 correspondence runs) and
`Header.decodeFixed / decodeHeader`. "Never panics / aborts" on the Rust side is: the implementation never
leaves this total model — that is what the C04 engine checks by running the real code in worker processes
(both byte orders, 8 memory alignments, optimised and debug-assertion builds).  What is PROVED here, for
ARBITRARY byte lists, all types, both byte orders:

1. every successful decode makes progress and stays inside its limit and the buffer; bytes at or beyond the
   limit cannot influence the result (every read is bounds-checked), also on the header side;
2. the element loops stop by themselves: the fuel the model gives them is never the reason for a rejection;
3. an instrumented copy of the decoder (`decW`) computes the same results, never nests deeper than the
   budget (64), and does work LINEAR in the number of input bytes — on success and on failure
   (nesting bombs, length bombs);
4. the `unsafe` slice fast path meets the safety contract of every unsafe call it reaches, for every buffer
   address, and returns exactly what the generic decoder returns;
5. no `unwrap` is reached on a signature that passed `validate_signature` (a received SIGNATURE field is
   checked with it in `unmarshal_header_field`): `SignatureIter`, `has_sig` and `get_param` answer on all of
   them. That they never see another one is not stated here: `MarshalledMessageBody::from_parts` is public and
   takes any string, and `Sig.sigIter ['a'] = none`.
-/
namespace Rustbus.C04
open Rustbus Rustbus.Bytes Rustbus.Wire Rustbus.Slice

/-- `off < o'`: no loop over values can stall. -/
theorem dec_in_bounds (bo : ByteOrder) (buf : List UInt8) (nfds : Option Nat) (d : Nat) (t : Ty)
    (off lim : Nat) (v : Val) (o' : Nat) (h : dec bo buf nfds d t off lim = some (v, o')) :
    off < o' ∧ o' ≤ lim ∧ lim ≤ buf.length :=
  dec_bounds h

/-- No read at or beyond the limit (the buffers may differ in everything behind it, including their length):
    every read of the decoder is bounds-checked against `lim`; in particular nothing outside the
    buffer is ever looked at. -/
theorem dec_reads_only_below_limit (bo : ByteOrder) (buf buf' : List UInt8) (nfds : Option Nat) (d : Nat) (t : Ty)
    (off lim : Nat) (h : buf.take lim = buf'.take lim) :
    dec bo buf nfds d t off lim = dec bo buf' nfds d t off lim :=
  dec_agree h

theorem dec_limit_beyond_buffer_rejected (bo : ByteOrder) (buf : List UInt8) (nfds : Option Nat) (d : Nat) (t : Ty)
    (off lim : Nat) (h : buf.length < lim) : dec bo buf nfds d t off lim = none := by
  cases hd : dec bo buf nfds d t off lim with
  | none => rfl
  | some p =>
    have := dec_bounds hd
    omega

/-- Raw validation of a value does not depend on what follows the value. -/
theorem validate_ignores_bytes_after_value (bo : ByteOrder) (buf : List UInt8) (off : Nat) (t : Ty) (n : Nat)
    (h : validate bo buf off t = some n) (tail : List UInt8) :
    validate bo (buf.take (off + n) ++ tail) off t = some n := by
  unfold validate at h ⊢
  cases hd : dec bo buf none maxDepth t off buf.length with
  | none => rw [hd] at h; cases h
  | some p =>
    obtain ⟨v, o'⟩ := p
    rw [hd] at h
    cases h
    obtain ⟨h1, h2, h3⟩ := dec_bounds hd
    rw [Nat.add_sub_cancel' (Nat.le_of_lt h1)]
    have hlen : (buf.take o').length = o' := List.length_take_of_le (Nat.le_trans h2 h3)
    rw [dec_replay (nfds' := none) hd
      (slice_of_take_eq (n := o') (List.take_left' hlen) off _ (Nat.le_of_eq (Nat.add_sub_cancel' (Nat.le_of_lt h1))))
      (by rw [List.length_append, hlen]; exact Nat.le_add_right _ _) (Nat.le_refl _) id rfl]

/-- Header side: `unmarshal_header` looks at the first 12 bytes only. -/
theorem decodeFixed_reads_12 (buf buf' : List UInt8) (h : buf.take 12 = buf'.take 12) :
    Header.decodeFixed buf = Header.decodeFixed buf' :=
  Header.decodeFixed_reads_12 buf buf' h

/-- Header side; 16: the 12 fixed bytes and the length word of the field array. -/
theorem decodeHeader_in_bounds (buf : List UInt8) (fx : Header.Fixed) (fs : List Header.Field) (used : Nat)
    (h : Header.decodeHeader buf = some (fx, fs, used)) : 16 ≤ used ∧ used ≤ buf.length := by
  obtain ⟨len, _, _, hl, _, _, rfl⟩ := Header.decodeHeader_eq_some.1 h
  exact ⟨Nat.le_add_right _ _, hl⟩

/-- Header side: decoding the header (fixed part and all header fields, unknown ones included) reads the
    `used` header bytes only. -/
theorem decodeHeader_reads_only_header (buf buf' : List UInt8) (fx : Header.Fixed) (fs : List Header.Field)
    (used : Nat) (hd : Header.decodeHeader buf = some (fx, fs, used)) (h : buf.take used = buf'.take used)
    (hlen : used ≤ buf'.length) :
    Header.decodeHeader buf' = some (fx, fs, used) :=
  Header.decodeHeader_agree hd h hlen

/-- The element loop of an array stops by itself, because every element consumes at least one byte.
    (The model runs it with `fuel = len = lim - off`.) -/
theorem decList_fuel_sufficient (bo : ByteOrder) (buf : List UInt8) (nfds : Option Nat) (d : Nat) (e : Ty)
    (off lim fuel : Nat) (h : lim - off ≤ fuel) :
    decList bo buf nfds d e off lim fuel = decList bo buf nfds d e off lim (lim - off) :=
  decList_fuel h (Nat.le_refl _)

/-- The same for the entry loop of a dict. -/
theorem decEntries_fuel_sufficient (bo : ByteOrder) (buf : List UInt8) (nfds : Option Nat) (d : Nat) (k : Base)
    (vt : Ty) (off lim fuel : Nat) (h : lim - off ≤ fuel) :
    decEntries bo buf nfds d k vt off lim fuel = decEntries bo buf nfds d k vt off lim (lim - off) :=
  decEntries_fuel h (Nat.le_refl _)

/-- The same for the loop over the header fields. -/
theorem decodeFields_fuel_sufficient (bo : ByteOrder) (buf : List UInt8) (off lim fuel : Nat)
    (h : lim - off ≤ fuel) :
    Header.decodeFields bo buf off lim fuel = Header.decodeFields bo buf off lim (lim - off) :=
  Header.decodeFields_fuel h (Nat.le_refl _)

/-- The fuel is never the reason for a rejection (stated for the array loop as `dec` calls it). -/
theorem array_fuel_never_binds (bo : ByteOrder) (buf : List UInt8) (nfds : Option Nat) (d : Nat) (e : Ty)
    (o2 len extra : Nat) :
    decList bo buf nfds d e o2 (o2 + len) (len + extra) = decList bo buf nfds d e o2 (o2 + len) len :=
  decList_fuel (by omega) (by omega)

theorem decW_same_result (bo : ByteOrder) (buf : List UInt8) (nfds : Option Nat) (d : Nat) (t : Ty)
    (off lim : Nat) : (decW bo buf nfds d t off lim).res = dec bo buf nfds d t off lim :=
  (inv_all bo buf nfds 256 (Nat.le_refl _) d t off lim).res

theorem decW_depth_le_budget (bo : ByteOrder) (buf : List UInt8) (nfds : Option Nat) (d : Nat) (t : Ty)
    (off lim : Nat) : (decW bo buf nfds d t off lim).depth ≤ d :=
  (inv_all bo buf nfds 256 (Nat.le_refl _) d t off lim).depth

/-- Raw validation (and unmarshalling, which runs with the same budget) never enters more than 64
    container levels. -/
theorem validate_depth_le_64 (bo : ByteOrder) (buf : List UInt8) (off : Nat) (t : Ty) :
    (validateW bo buf off t).res = (dec bo buf none maxDepth t off buf.length) ∧
    (validateW bo buf off t).depth ≤ 64 :=
  ⟨decW_same_result bo buf none maxDepth t off buf.length, decW_depth_le_budget bo buf none maxDepth t off buf.length⟩

/-- Sharp form: charged are the bytes CONSUMED if the decode succeeds, the window if it fails. Per
    nesting level every byte is charged at most `B` steps. -/
theorem decW_work_sharp (bo : ByteOrder) (buf : List UInt8) (nfds : Option Nat) (B d : Nat) (t : Ty)
    (off lim : Nat) (hB : 256 ≤ B) (ht : t.size ≤ B) :
    (decW bo buf nfds d t off lim).work ≤
      t.size + B * (d + 1) * (match dec bo buf nfds d t off lim with
                              | some (_, o') => o' - off
                              | none => lim - off) := by
  have h := (inv_all bo buf nfds B hB d t off lim).work ht
  cases hd : dec bo buf nfds d t off lim with
  | none => rw [hd] at h; exact h
  | some p => obtain ⟨v, o'⟩ := p; rw [hd] at h; exact h

/-- The work of a decode — decoder calls, loop iterations, string bytes validated, signature characters
    parsed — is LINEAR in the number of bytes of its window, on success AND on failure:
    `work ≤ max (size t) 256 · (1 + (d+1)·(lim - off))`. -/
theorem decW_work_linear (bo : ByteOrder) (buf : List UInt8) (nfds : Option Nat) (d : Nat) (t : Ty)
    (off lim : Nat) : (decW bo buf nfds d t off lim).work ≤ workBound t d (lim - off) := by
  have hw := (inv_all bo buf nfds (max t.size 256) (Nat.le_max_right _ _) d t off lim).work (Nat.le_max_left _ _)
  have hm := Nat.mul_le_mul_left (max t.size 256 * (d + 1)) (span_le bo buf nfds d t off lim)
  unfold workBound
  rw [Nat.mul_add, Nat.mul_one, ← Nat.mul_assoc]
  omega

theorem validate_work_linear (bo : ByteOrder) (buf : List UInt8) (off : Nat) (t : Ty) :
    (validateW bo buf off t).work ≤ max t.size 256 * (1 + 65 * (buf.length - off)) :=
  decW_work_linear bo buf none maxDepth t off buf.length

/-- A whole message body (`MarshalledMessageBody::validate`, the `get_param` loop); a body signature has at
    most 255 characters, hence at most 255 type nodes. -/
theorem body_work_linear (bo : ByteOrder) (buf : List UInt8) (nfds : Option Nat) (ts : List Ty)
    (hs : (Ty.listToStr ts).length ≤ 255) :
    (decBodyW bo buf nfds ts 0).res = decBody bo buf nfds ts 0 ∧
    (decBodyW bo buf nfds ts 0).depth ≤ 64 ∧
    (decBodyW bo buf nfds ts 0).work ≤ 255 + 256 * 65 * buf.length := by
  have hsz := sizeList_le_toStr ts
  obtain ⟨h1, h2, h3⟩ := decBodyW_ok bo buf nfds ts 0 256 (Nat.le_refl _) (by omega) (Nat.zero_le _)
  refine ⟨h1, h2, ?_⟩
  simp only [maxDepth, Nat.sub_zero] at h3
  omega

/-- Every unsafe operation `Cow<[E]>::unmarshal` reaches meets its safety contract, for every address `base` of
    the buffer: `from_raw_parts` only with an aligned pointer, exactly `len = cnt·size` bytes inside the buffer;
    `copy_nonoverlapping` only inside the source and inside the capacity just allocated, `set_len` only over
    initialised elements. -/
theorem cow_sites_ok (native : ByteOrder) (base : Nat) (bo : ByteOrder) (buf : List UInt8) (nfds : Option Nat)
    (d : Nat) (b : Base) (off lim : Nat) :
    ∀ s ∈ (cowSlice native base bo buf nfds d b off lim).sites, s.ok := by
  intro s hs
  unfold cowSlice at hs
  split at hs
  · rename_i size hv hm
    cases (validSlice_facts hv).1.symm.trans hm
    cases hsb : sliceBytes bo buf b off lim with
    | none => simp [hsb] at hs
    | some p =>
      obtain ⟨start, len⟩ := p
      simp only [hsb] at hs
      split at hs
      · rename_i hal
        simp only [List.mem_singleton] at hs
        subst hs
        exact borrow_site_ok base hsb hal
      · simp only [List.mem_singleton] at hs
        subst hs
        exact copy_site_ok hsb
  · split at hs <;> simp at hs

/-- The same for `Vec<E>::unmarshal` (its fast path always copies). -/
theorem vec_sites_ok (native : ByteOrder) (bo : ByteOrder) (buf : List UInt8) (nfds : Option Nat)
    (d : Nat) (b : Base) (off lim : Nat) :
    ∀ s ∈ (vecSlice native bo buf nfds d b off lim).sites, s.ok := by
  intro s hs
  unfold vecSlice at hs
  split at hs
  · rename_i size hv hm
    cases (validSlice_facts hv).1.symm.trans hm
    cases hsb : sliceBytes bo buf b off lim with
    | none => simp [hsb] at hs
    | some p =>
      obtain ⟨start, len⟩ := p
      simp only [hsb, List.mem_singleton] at hs
      subst hs
      exact copy_site_ok hsb
  · split at hs <;> simp at hs

/-- The unaligned case takes the copying branch: a borrow (`Cow::Borrowed`) is produced only where the
    element bytes start at an address that is a multiple of the element's alignment. -/
theorem cow_borrow_only_if_aligned (native : ByteOrder) (base : Nat) (bo : ByteOrder) (buf : List UInt8)
    (nfds : Option Nat) (d : Nat) (b : Base) (off lim : Nat) (v : Val) (o' : Nat)
    (h : (cowSlice native base bo buf nfds d b off lim).res = some (v, o', .borrowed)) :
    ∃ start len, sliceBytes bo buf b off lim = some (start, len) ∧ (base + start) % b.align = 0 := by
  unfold cowSlice at h
  split at h
  · rename_i size hv hm
    cases (validSlice_facts hv).1.symm.trans hm
    cases hsb : sliceBytes bo buf b off lim with
    | none => simp [hsb] at h
    | some p =>
      obtain ⟨start, len⟩ := p
      simp only [hsb] at h
      split at h
      · rename_i hal; exact ⟨start, len, rfl, hal⟩
      · simp at h
  · split at h <;> simp at h

/-- The fast path cannot accept or produce anything the generic decoder would not: value and end offset of
    `Cow<[E]>::unmarshal` are those of `dec` at type `array (base b)`, and both reject the same inputs. -/
theorem cow_eq_dec (native : ByteOrder) (base : Nat) (bo : ByteOrder) (buf : List UInt8) (nfds : Option Nat)
    (d : Nat) (b : Base) (off lim : Nat) :
    (cowSlice native base bo buf nfds d b off lim).res.map (fun r => (r.1, r.2.1)) =
      dec bo buf nfds (d + 1) (.array (.base b)) off lim := by
  unfold cowSlice
  split
  · rename_i size hv hm
    cases (validSlice_facts hv).1.symm.trans hm
    rw [dec_array_eq_sliceBytes hv]
    cases sliceBytes bo buf b off lim with
    | none => rfl
    | some p => simp only []; split <;> rfl
  · cases dec bo buf nfds (d + 1) (.array (.base b)) off lim <;> rfl

/-- The same for `Vec<E>::unmarshal`. -/
theorem vec_eq_dec (native : ByteOrder) (bo : ByteOrder) (buf : List UInt8) (nfds : Option Nat)
    (d : Nat) (b : Base) (off lim : Nat) :
    (vecSlice native bo buf nfds d b off lim).res.map (fun r => (r.1, r.2.1)) =
      dec bo buf nfds (d + 1) (.array (.base b)) off lim := by
  unfold vecSlice
  split
  · rename_i size hv hm
    cases (validSlice_facts hv).1.symm.trans hm
    rw [dec_array_eq_sliceBytes hv]
    cases sliceBytes bo buf b off lim <;> rfl
  · cases dec bo buf nfds (d + 1) (.array (.base b)) off lim <;> rfl

/-- `SignatureIter` (whose `next` contains the `unwrap`) yields all pieces of every signature that passed
    `validate_signature` without panicking. -/
theorem sigIter_no_unwrap (s : List Char) (h : Sig.validateSignature s = true) :
    (Sig.sigIter s).isSome = true := by
  obtain ⟨ts, hts, _⟩ := Sig.sigIter_pieces s h
  rw [hts]; rfl

/-- `MessageBodyParser::get::<T>()`: on every piece the iterator hands out for a validated body signature
    `T::has_sig` answers (no panic) for EVERY modelled type `T` — basic types, arrays, dicts, tuples and
    derived structs (shorter, longer, different ones), variants. -/
theorem has_sig_no_panic (s : List Char) (h : Sig.validateSignature s = true) :
    ∃ pieces, Sig.sigIter s = some pieces ∧ ∀ p ∈ pieces, ∀ t : Ty, HasSig.hasSig t p ≠ none := by
  obtain ⟨ts, hts, _⟩ := Sig.sigIter_pieces s h
  refine ⟨_, hts, fun p hp t => ?_⟩
  obtain ⟨t0, _, rfl⟩ := List.mem_map.mp hp
  rw [HasSig.hasSig_toStr]
  exact Option.some_ne_none _

/-- `MessageBodyParser::get_param()` only ever parses pieces of a validated signature, and
    `Type::parse_description` returns exactly one type for each of them: neither its `?` nor the
    `first()` behind it can fail. -/
theorem get_param_parses_valid_only (s : List Char) (h : Sig.validateSignature s = true) :
    ∃ pieces, Sig.sigIter s = some pieces ∧
      ∀ p ∈ pieces, Sig.validateSignature p = true ∧ ∃ t, Sig.parseDescription p = some [t] := by
  obtain ⟨ts, hts, hd⟩ := Sig.sigIter_pieces s h
  refine ⟨_, hts, fun p hp => ?_⟩
  obtain ⟨t0, hm, rfl⟩ := List.mem_map.mp hp
  exact ⟨(Sig.validateSignature_iff _).mpr ⟨[t0], hd t0 hm⟩, t0, (Sig.parseDescription_iff _ _).mpr (hd t0 hm)⟩

/- Non-vacuity. `dec` is defined by well-founded recursion, so the kernel cannot just compute it on concrete bytes;
   `simp` with the one-step unfolding lemmas can. -/
private theorem pv : Sig.parseDescription (latin1 [0x76]) = some [.variant] := by rfl
private theorem py : Sig.parseDescription (latin1 [0x79]) = some [.base .byte] := by rfl
private theorem dz (bo : ByteOrder) (buf : List UInt8) (nfds : Option Nat) (off lim : Nat) :
    dec bo buf nfds 0 .variant off lim = none := dec_zero (by intro b; simp)
private theorem dzW (bo : ByteOrder) (buf : List UInt8) (nfds : Option Nat) (off lim : Nat) :
    decW bo buf nfds 0 .variant off lim = ⟨none, 1, 0⟩ := decW_zero (by intro b; simp)

section
attribute [local simp] validate validateW maxDepth dec_variant dec_base dec_array decW_variant decW_base
  decW_array decBase decBaseWork readNum skipPad slice valOf leVal padLen pv py Base.fixedSize Base.align
  Ty.align cowSlice sliceBytes elems validSlice memSize decList_zero decList_succ decListW_zero decListW_succ
  dz dzW

/-- a 3-level variant bomb `v(v(v(y)))`: accepted, 3 levels entered, 7 steps for 10 bytes -/
def bomb3 : List UInt8 := [1, 0x76, 0, 1, 0x76, 0, 1, 0x79, 0, 7]
example : validate .le bomb3 0 .variant = some 10 := by simp (decide := true) [bomb3]
example : validateW .le bomb3 0 .variant =
    ⟨some (.variant .variant (.variant .variant (.variant (.base .byte) (.num 7))), 10), 7, 3⟩ := by
  simp (decide := true) [bomb3]
/-- with a budget of 2 the same bytes are refused after entering 2 levels -/
example : dec .le bomb3 none 2 .variant 0 10 = none ∧ (decW .le bomb3 none 2 .variant 0 10).depth = 2 := by
  simp (decide := true) [bomb3]
/-- an array that claims 2^32-1 bytes (and one that claims 64 MiB + 1): refused after one step -/
example : validateW .le [0xff, 0xff, 0xff, 0xff, 0, 0, 0, 0] 0 (.array (.base .u64)) = ⟨none, 1, 1⟩ := by simp (decide := true)
example : validate .le [0x01, 0x00, 0x00, 0x04, 0, 0, 0, 0] 0 (.array (.base .byte)) = none := by simp (decide := true)
/-- an array of two bytes: 2 elements + the final empty iteration + the array itself = 6 steps -/
example : validateW .le [2, 0, 0, 0, 5, 6] 0 (.array (.base .byte)) =
    ⟨some (.arr [.num 5, .num 6], 6), 6, 1⟩ := by simp (decide := true)
/-- bytes behind the limit do not matter -/
example : dec .le [2, 0, 0, 0, 5, 6, 99] none 64 (.array (.base .byte)) 0 6 =
    dec .le [2, 0, 0, 0, 5, 6, 1, 2, 3] none 64 (.array (.base .byte)) 0 6 :=
  dec_reads_only_below_limit _ _ _ _ _ _ _ _ (by decide)
/-- one `u64` element: borrowed at an aligned base, copied at base 1 -/
def oneU64 : List UInt8 := [8, 0, 0, 0, 0, 0, 0, 0, 1, 2, 3, 4, 5, 6, 7, 8]
example : cowSlice .le 0 .le oneU64 none 0 .u64 0 16 =
    ⟨some (.arr [.num 0x0807060504030201], 16, .borrowed), [.fromRawParts 8 8 8 1 8 8 16]⟩ := by
  simp (decide := true) [oneU64]
example : cowSlice .le 1 .le oneU64 none 0 .u64 0 16 =
    ⟨some (.arr [.num 0x0807060504030201], 16, .copied), [.copy 8 1 8 8 16 1]⟩ := by
  simp (decide := true) [oneU64]
/-- the same bytes read as big endian announce 2^27 bytes: the generic path refuses, no unsafe site -/
example : cowSlice .le 0 .be oneU64 none 0 .u64 0 16 = ⟨none, []⟩ := by simp (decide := true) [oneU64]
/-- a partial element (12 bytes of u64) is refused by the fast path before any unsafe site -/
example : cowSlice .le 0 .le [12, 0, 0, 0, 0, 0, 0, 0, 1, 2, 3, 4, 5, 6, 7, 8, 9, 10, 11, 12] none 0 .u64 0 20
    = ⟨none, []⟩ := by simp (decide := true)
/-- a derived struct of two fields asked for a shorter / longer signature answers `false`, no panic -/
example : HasSig.hasSig (.struct [.base .u32, .base .string]) "(u)".toList = some false ∧
    HasSig.hasSig (.struct [.base .u32]) "(us)".toList = some false := by
  repeat rw [String.toList_ofList]
  decide +kernel
example : Sig.sigIter "a{sv}(ii)v".toList = some ["a{sv}".toList, "(ii)".toList, "v".toList] := by
  repeat rw [String.toList_ofList]
  decide +kernel
end

end Rustbus.C04

#print axioms Rustbus.C04.dec_in_bounds
#print axioms Rustbus.C04.dec_reads_only_below_limit
#print axioms Rustbus.C04.dec_limit_beyond_buffer_rejected
#print axioms Rustbus.C04.validate_ignores_bytes_after_value
#print axioms Rustbus.C04.decodeFixed_reads_12
#print axioms Rustbus.C04.decodeHeader_in_bounds
#print axioms Rustbus.C04.decodeHeader_reads_only_header
#print axioms Rustbus.C04.decList_fuel_sufficient
#print axioms Rustbus.C04.decEntries_fuel_sufficient
#print axioms Rustbus.C04.decodeFields_fuel_sufficient
#print axioms Rustbus.C04.array_fuel_never_binds
#print axioms Rustbus.C04.decW_same_result
#print axioms Rustbus.C04.decW_depth_le_budget
#print axioms Rustbus.C04.validate_depth_le_64
#print axioms Rustbus.C04.decW_work_sharp
#print axioms Rustbus.C04.decW_work_linear
#print axioms Rustbus.C04.validate_work_linear
#print axioms Rustbus.C04.body_work_linear
#print axioms Rustbus.C04.cow_sites_ok
#print axioms Rustbus.C04.vec_sites_ok
#print axioms Rustbus.C04.cow_borrow_only_if_aligned
#print axioms Rustbus.C04.cow_eq_dec
#print axioms Rustbus.C04.vec_eq_dec
#print axioms Rustbus.C04.sigIter_no_unwrap
#print axioms Rustbus.C04.has_sig_no_panic
#print axioms Rustbus.C04.get_param_parses_valid_only
