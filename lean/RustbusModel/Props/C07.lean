import RustbusModel.Lemmas.SigParse
import RustbusModel.Lemmas.SigValidate
import RustbusModel.Lemmas.SigIter
/-!
C07 — Signature parsers accept exactly the D-Bus signature grammar and agree.
The grammar (`Denotes`, `Valid`) is Spec/Sig.lean. A theorem about a string `s` holds for **every** string of
Unicode scalar values.
-/
namespace Rustbus.Sig
open Rustbus Rustbus.Spec.Sig

/-- The structural parser accepts exactly the valid signatures and returns the types they denote. -/
theorem parse_iff_spec (s : List Char) (ts : List Ty) :
    parseDescription s = some ts ↔ Denotes s ts :=
  parseDescription_iff s ts

/-- The fast validator accepts exactly the valid signatures. -/
theorem validate_iff_spec (s : List Char) : validateSignature s = true ↔ Valid s :=
  validateSignature_iff s

/-- Both give the same verdict on every string. -/
theorem parsers_agree (s : List Char) :
    (parseDescription s).isSome = validateSignature s := by
  rw [Bool.eq_iff_iff, Option.isSome_iff_exists, validate_iff_spec]
  exact exists_congr (parse_iff_spec s)

/-- Printing a parsed signature reproduces the input. -/
theorem print_parse (s : List Char) (ts : List Ty) (h : parseDescription s = some ts) :
    Ty.listToStr ts = s :=
  ((parse_iff_spec s ts).mp h).2.1.symm

/-- Parsing a printed valid type list gives it back (the denotation is unique). -/
theorem parse_print (ts : List Ty) (hv : ValidTypes ts) (hl : (Ty.listToStr ts).length ≤ 255) :
    parseDescription (Ty.listToStr ts) = some ts :=
  (parse_iff_spec _ ts).mpr ⟨hl, rfl, hv⟩

/-- The splitter yields exactly the top-level complete types of a valid signature (and never hits
    its `unwrap`). -/
theorem iter_splits (s : List Char) (ts : List Ty) (h : Denotes s ts) :
    sigIter s = some (ts.map Ty.toStr) :=
  h.2.1 ▸ sigIter_listToStr ts

/-! Single strings: a boolean dict key is accepted; a dict entry outside an array (bare, or in a struct) and
the empty struct are rejected. -/

-- (a literal unifies with `String.ofList […]`; rewriting first spares the kernel the decoding of the literal)
theorem bool_dict_key_ok : validateSignature "a{bs}".toList = true ∧
    (parseDescription "a{bs}".toList).isSome = true := by
  rw [String.toList_ofList]; decide +kernel
theorem bare_dict_entry_rejected : validateSignature "{si}".toList = false ∧
    parseDescription "{si}".toList = none ∧ parseDescription "({si})".toList = none := by
  rw [String.toList_ofList, String.toList_ofList]; decide +kernel
theorem empty_struct_rejected : validateSignature "()".toList = false ∧
    parseDescription "()".toList = none := by
  rw [String.toList_ofList]; decide +kernel

/-- depth boundaries: 32 levels accepted, 33 rejected, for arrays and for structs -/
theorem depth_boundary :
    validateSignature (List.replicate 32 'a' ++ ['y']) = true ∧
    validateSignature (List.replicate 33 'a' ++ ['y']) = false ∧
    validateSignature (List.replicate 32 '(' ++ ['y'] ++ List.replicate 32 ')') = true ∧
    validateSignature (List.replicate 33 '(' ++ ['y'] ++ List.replicate 33 ')') = false := by
  decide +kernel

end Rustbus.Sig

#print axioms Rustbus.Sig.parse_iff_spec
#print axioms Rustbus.Sig.validate_iff_spec
#print axioms Rustbus.Sig.parsers_agree
#print axioms Rustbus.Sig.print_parse
#print axioms Rustbus.Sig.parse_print
#print axioms Rustbus.Sig.iter_splits
#print axioms Rustbus.Sig.bool_dict_key_ok
#print axioms Rustbus.Sig.bare_dict_entry_rejected
#print axioms Rustbus.Sig.empty_struct_rejected
#print axioms Rustbus.Sig.depth_boundary
