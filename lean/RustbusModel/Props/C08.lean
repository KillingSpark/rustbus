import RustbusModel.Lemmas.Names
/-!
C08 — Name and object-path validators accept exactly the spec's languages.
`validate*` are the models of the Rust validators (Model/Names.lean); `Spec*` are the languages of
the D-Bus specification (Lemmas/Names.lean, written independently of the code, over `Sep`).
Each theorem holds for **every** string of Unicode scalar values.
-/
namespace Rustbus.Names

theorem validateInterface_iff (s : List Char) : validateInterface s = true ↔ SpecInterface s :=
  validateInterface_spec s

/-- Error names follow the interface-name rules. -/
theorem validateErrorname_iff (s : List Char) : validateErrorname s = true ↔ SpecInterface s :=
  validateInterface_spec s

theorem validateBusname_iff (s : List Char) : validateBusname s = true ↔ SpecBusname s :=
  validateBusname_spec s

theorem validateMembername_iff (s : List Char) : validateMembername s = true ↔ SpecMember s :=
  validateMembername_spec s

theorem validateObjectPath_iff (s : List Char) : validateObjectPath s = true ↔ SpecObjectPath s :=
  validateObjectPath_spec s

-- non-vacuity: the validators at the interesting points (unique against well-known bus name, leading digit,
-- non-ASCII character, empty path element)
-- (a literal unifies with `String.ofList […]`; rewriting first spares the kernel the decoding of the literal)
example : validateInterface "org.freedesktop.DBus".toList = true := by
  rw [String.toList_ofList]; decide +kernel
example : validateBusname ":1.42".toList = true ∧ validateBusname "1.42".toList = false := by
  rw [String.toList_ofList, String.toList_ofList]; decide +kernel
example : validateMembername "1abc".toList = false ∧ validateMembername "é".toList = false := by
  rw [String.toList_ofList, String.toList_ofList]; decide +kernel
example : validateObjectPath "/a/b_1".toList = true ∧ validateObjectPath "/a//b".toList = false := by
  rw [String.toList_ofList, String.toList_ofList]; decide +kernel

end Rustbus.Names

#print axioms Rustbus.Names.validateInterface_iff
#print axioms Rustbus.Names.validateErrorname_iff
#print axioms Rustbus.Names.validateBusname_iff
#print axioms Rustbus.Names.validateMembername_iff
#print axioms Rustbus.Names.validateObjectPath_iff
