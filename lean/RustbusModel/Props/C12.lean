import RustbusModel.Lemmas.FdConcGone
/-!
C12 — A shared `UnixFd` is taken at most once and closed exactly once, in any interleaving.

Setting (Model/FdConc.lean): `init orig progs` = one `UnixFd` holding the descriptor number `orig`, one clone
per thread, thread `i` runs the program `progs[i]` (any list over take / get / dup / clone / drop, and `dupFail`:
a dup whose system call the kernel refuses) and at its end drops the handles it still owns. `run c s` executes
the schedule `s` (a list of thread ids, one ATOMIC step of the named thread per entry: a load, a
compare_exchange, an `Arc` increment / decrement, a `dup` or `close` system call, or the invocation of the next
operation). All theorems hold for ANY number of threads, ANY programs and ANY schedule `s`; `orig ≠ -1`
because -1 is the cell's marker for "taken".

"The library closes the descriptor" = an action `close (Fd.num orig)` in the trace, i.e. a `close` system
call on the original number; only `Drop for UnixFdInner` of the shared cell issues these
(`Config.closesOf orig` counts them). Descriptors created by `dup` are different objects (`Fd.dupd n`)
with their own lifetime; closing them is not closing the original.

Assumed (not proved): SeqCst atomics = interleaving of atomic steps; `Arc` = atomic counter whose last
decrement runs `Drop`; a `dup` system call that succeeds returns a number that is not open at that moment, one
that is refused (`Op.dupFail`) creates nothing.
-/
namespace Rustbus.FdConc

/-- Over the whole execution at most one `take_raw_fd` returns `Some`, and what it returns is the original
    descriptor. -/
theorem at_most_one_take (orig : Int) (ho : orig ≠ -1) (progs : List (List Op)) (s : List Nat) (c : Config)
    (h : run (init orig progs) s = some c) :
    c.allResults.countP Res.isTakeSome ≤ 1 ∧ ∀ fd, Res.takeSome fd ∈ c.allResults → fd = orig := by
  have inv := inv_reach ho h
  constructor
  · rw [countP_allResults]
    have h1 := inv.takeEq
    have h2 := inv.cell
    omega
  · intro fd hfd
    simp only [Config.allResults, List.mem_flatMap] at hfd
    obtain ⟨th, hth, hr⟩ := hfd
    exact (inv.wf th hth).2 _ hr

/-- Whatever a thread's `take_raw_fd` returned as `Some` is the original descriptor. -/
theorem take_returns_original (orig : Int) (ho : orig ≠ -1) (progs : List (List Op)) (s : List Nat) (c : Config)
    (h : run (init orig progs) s = some c) (t : Nat) (th : Thread) (ht : c.threads[t]? = some th) (fd : Int)
    (hr : Res.takeSome fd ∈ th.results) : fd = orig :=
  ((inv_reach ho h).wf th (List.mem_of_getElem? ht)).2 _ hr

/-- Real-time order. Let `c1` be any reachable configuration in which some `take_raw_fd` has already executed
    its successful compare_exchange (or has already returned `Some`), and `c2` any configuration reachable from
    `c1`. Then for every thread: the results it reports between `c1` and `c2` are "gone"
    (`None` / `AlreadyTaken`; clone and drop report nothing about the descriptor) — ALL of them if at `c1`
    the thread was between two operations or had only invoked its operation without executing its first
    atomic step (the load); all BUT THE FIRST if at `c1` it was in the middle of an operation (that one
    overlaps the take and may still have seen the descriptor). -/
theorem gone_after_take (orig : Int) (ho : orig ≠ -1) (progs : List (List Op)) (s1 s2 : List Nat)
    (c1 c2 : Config) (h1 : run (init orig progs) s1 = some c1)
    (htaken : (∃ e ∈ c1.trace, e.2.isTook = true) ∨ (∃ r ∈ c1.allResults, r.isTakeSome = true))
    (h2 : run c1 s2 = some c2) (t : Nat) (th1 : Thread) (ht : c1.threads[t]? = some th1) :
    ∃ th2 new, c2.threads[t]? = some th2 ∧ th2.results = th1.results ++ new ∧
      (th1.pc.beforeFirstStep = true → ∀ r ∈ new, r.seesFd = false) ∧
      (∀ r ∈ new.tail, r.seesFd = false) := by
  have inv := inv_reach ho h1
  have hg := inner_gone_of_took inv (took_pos_of_taken inv htaken)
  obtain ⟨th2, new, hth2, hres, hcl, htl⟩ := run_gone h2 hg ht
  refine ⟨th2, new, hth2, hres, ?_, ?_⟩
  · intro hb
    exact (hcl (clean_of_beforeFirstStep hb)).2
  · rcases htl with rfl | ⟨_, h⟩
    · simp
    · exact h

/-- Once a take has succeeded the cell holds -1 for ever: every later load (of any get / take / dup / Drop)
    reads -1. (The mechanism behind `gone_after_take`, stated on the shared state.) -/
theorem taken_is_permanent (orig : Int) (ho : orig ≠ -1) (progs : List (List Op)) (s1 s2 : List Nat)
    (c1 c2 : Config) (h1 : run (init orig progs) s1 = some c1) (htaken : ∃ e ∈ c1.trace, e.2.isTook = true)
    (h2 : run c1 s2 = some c2) : c1.sh.inner = -1 ∧ c2.sh.inner = -1 := by
  have inv := inv_reach ho h1
  have hg := inner_gone_of_took inv (List.countP_pos_iff.mpr htaken)
  exact ⟨hg, run_inner_gone h2 hg⟩

/-- The `Arc` count is exactly the number of live handles: those the threads own plus those that are being
    consumed by a `take_raw_fd` / drop whose decrement has not happened yet (`held`). This is what
    "a handle is alive" means in the next theorem. -/
theorem strong_counts_live_handles (orig : Int) (ho : orig ≠ -1) (progs : List (List Op)) (s : List Nat)
    (c : Config) (h : run (init orig progs) s = some c) :
    c.sh.strong = sumBy held c.threads :=
  (inv_reach ho h).strongEq

/-- While any handle is alive (the `Arc` count is positive; equivalently some thread owns a handle or is in
    the middle of consuming one) the trace contains no `close` of the original descriptor: the library does
    not close it before the last drop. -/
theorem not_closed_before_last_drop (orig : Int) (ho : orig ≠ -1) (progs : List (List Op)) (s : List Nat)
    (c : Config) (h : run (init orig progs) s = some c)
    (halive : 0 < c.sh.strong ∨ ∃ th ∈ c.threads, 0 < held th) : c.closesOf orig = 0 := by
  have inv := inv_reach ho h
  have hs : 0 < c.sh.strong := by
    rcases halive with hs | ⟨th, hth, hh⟩
    · exact hs
    · have := sumBy_ge held hth
      have := inv.strongEq
      omega
  have h1 := (inv.alive hs).2
  have h2 := inv.closeEq
  show nActs (Act.isCloseOf orig) c.trace = 0
  omega

/-- If a take succeeded (its compare_exchange has been executed, or it has already returned `Some`), the
    trace contains no `close` of the original descriptor — in every reachable configuration, so at no point
    of the execution, before or after: the library never closes a taken descriptor. -/
theorem never_closed_if_taken (orig : Int) (ho : orig ≠ -1) (progs : List (List Op)) (s : List Nat)
    (c : Config) (h : run (init orig progs) s = some c)
    (htaken : (∃ e ∈ c.trace, e.2.isTook = true) ∨ (∃ r ∈ c.allResults, r.isTakeSome = true)) :
    c.closesOf orig = 0 := by
  have inv := inv_reach ho h
  have hpos := took_pos_of_taken inv htaken
  have h1 := inv.cell
  have h2 := inv.closeEq
  show nActs (Act.isCloseOf orig) c.trace = 0
  omega

/-- When all threads have finished (every handle has been dropped; at least one thread existed): the trace
    contains exactly one `close` of the original descriptor if no take returned `Some`, and none if one did. -/
theorem closed_once_iff_not_taken (orig : Int) (ho : orig ≠ -1) (progs : List (List Op)) (hp : progs ≠ [])
    (s : List Nat) (c : Config) (h : run (init orig progs) s = some c) (hf : c.finished = true) :
    c.closesOf orig + c.allResults.countP Res.isTakeSome = 1 ∧
    (c.closesOf orig = 1 ↔ ∀ r ∈ c.allResults, r.isTakeSome = false) ∧
    (c.closesOf orig = 0 ↔ ∃ r ∈ c.allResults, r.isTakeSome = true) := by
  have inv := inv_reach ho h
  obtain ⟨m1, m2, m3, m4⟩ := finished_measures hf
  have hs : c.sh.strong = 0 := by rw [inv.strongEq, m1]
  have hlen : 0 < c.threads.length := by
    rw [run_length h, init, List.length_map]
    exact List.length_pos_iff.mpr hp
  have heq : c.closesOf orig + c.allResults.countP Res.isTakeSome = 1 := by
    have h0 := inv.dead hs
    have h1 := inv.cell
    have h2 := inv.closeEq
    have h3 := inv.takeEq
    rw [countP_allResults]
    show nActs (Act.isCloseOf orig) c.trace + _ = 1
    omega
  have hz : c.allResults.countP Res.isTakeSome = 0 ↔ ∀ r ∈ c.allResults, r.isTakeSome = false := by
    simp only [List.countP_eq_zero, Bool.not_eq_true]
  have hpos := List.countP_pos_iff (l := c.allResults) (p := Res.isTakeSome)
  exact ⟨heq, by rw [← hz]; omega, by rw [← hpos]; omega⟩

/-- The schedules of the test harness (which can stop a thread only at hook points and between operations, so
    that the `Arc` decrement runs together with the step before it) are particular schedules of the model:
    everything proved above for `run` holds for the executions the correspondence run compares against. -/
theorem coarse_schedules_are_schedules (c c' : Config) (s : List Nat) (h : runCoarse c s = some c') :
    ∃ s', run c s' = some c' :=
  runCoarse_refines h

/-- sequential: one thread holding three handles: take, then get / dup / a second take all report "gone";
    the last drop does not close -/
example : (run (init 7 [[.clone, .clone, .take, .get, .dup, .take]]) (List.replicate 17 0)).map
      (fun c => (c.allResults, c.closesOf 7, c.finished)) =
    some ([.cloned, .cloned, .takeSome 7, .getNone, .dupTaken, .takeNone, .dropped], 0, true) := by
  decide +kernel

/-- sequential: nobody takes: get and dup see the descriptor, the duplicate is closed on its own, and the
    last (here: only) drop closes the original exactly once -/
example : (run (init 7 [[.get, .dup]]) (List.replicate 12 0)).map
      (fun c => (c.allResults, c.syslog.map (·.2), c.closesOf 7, c.finished)) =
    some ([.getSome 7, .dupOk 0, .dropped], [.dupSys 7 0, .close (.dupd 0), .close (.num 7)], 1, true) := by
  decide +kernel

/-- two threads race for the descriptor: both load 7 before either compare_exchange; thread 0's
    compare_exchange wins, thread 1's fails; thread 1's drop is the last one and does not close -/
example : (run (init 7 [[.take], [.take]]) [0, 1, 0, 1, 0, 1, 0, 1, 1, 1]).map
      (fun c => (c.threads.map (·.results), c.closesOf 7, c.finished)) =
    some ([[.takeSome 7], [.takeNone]], 0, true) := by
  decide +kernel

/-- the same race in the other order: thread 1 wins -/
example : (run (init 7 [[.take], [.take]]) [0, 1, 0, 1, 1, 0, 0, 1, 1, 1]).map
      (fun c => (c.threads.map (·.results), c.closesOf 7, c.finished)) =
    some ([[.takeNone], [.takeSome 7]], 0, true) := by
  decide +kernel

/-- an operation that overlaps the take may still see the descriptor: thread 1's dup loads 7, then thread 0
    takes, then thread 1 calls dup(7) — this is why `gone_after_take` exempts the first result of a thread
    that was in the middle of an operation -/
example : (run (init 7 [[.take], [.dup]]) [1, 1, 0, 0, 0, 0, 1, 1, 1, 1, 1, 1]).map
      (fun c => (c.threads.map (·.results), c.syslog, c.closesOf 7, c.finished)) =
    some ([[.takeSome 7], [.dupOk 0, .dropped]], [(1, .dupSys 7 0), (1, .close (.dupd 0))], 0, true) := by
  decide +kernel

/-- a get invoked after the take returned sees nothing -/
example : (run (init 7 [[.take], [.get]]) [0, 0, 0, 0, 1, 1, 1, 1, 1, 1]).map
      (fun c => (c.threads.map (·.results), c.closesOf 7)) =
    some ([[.takeSome 7], [.getNone, .dropped]], 0) := by
  decide +kernel

/-- a coarse schedule of the harness; three threads, nobody takes: closed once at the end -/
example : (runCoarse (init 7 [[.get], [.drop], [.dup]]) [1, 0, 2, 2, 0, 2, 2, 0, 2, 2, 2, 2, 2]).map
      (fun c => (c.threads.map (·.results), c.syslog.map (·.2), c.closesOf 7, c.finished)) =
    some ([[.getSome 7, .dropped], [.dropped], [.dupOk 0, .dropped]],
          [.dupSys 7 0, .close (.dupd 0), .close (.num 7)], 1, true) := by
  decide +kernel

end Rustbus.FdConc

#print axioms Rustbus.FdConc.at_most_one_take
#print axioms Rustbus.FdConc.take_returns_original
#print axioms Rustbus.FdConc.gone_after_take
#print axioms Rustbus.FdConc.taken_is_permanent
#print axioms Rustbus.FdConc.strong_counts_live_handles
#print axioms Rustbus.FdConc.not_closed_before_last_drop
#print axioms Rustbus.FdConc.never_closed_if_taken
#print axioms Rustbus.FdConc.closed_once_iff_not_taken
#print axioms Rustbus.FdConc.coarse_schedules_are_schedules
